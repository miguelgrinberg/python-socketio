/-
  K4 — noninterference (property C12), part 2: locality.  What a frame of a transport `t' ≠ t`
  does, it does to `strip t s` just as well: same outputs, same successor up to `strip t`.
-/
import Sio.Lemmas.ServerNI
namespace Sio.Server
open Sio.Rooms


/-- same outputs, and successor states that agree outside transport `t` -/
def Loc (t : Eio) (x y : Srv × List Out) : Prop := x.2 = y.2 ∧ strip t x.1 = strip t y.1

theorem Loc.refl (t : Eio) (x : Srv × List Out) : Loc t x x := ⟨rfl, rfl⟩

theorem strip_strip (t : Eio) (s : Srv) : strip t (strip t s) = strip t s := by
  have h := strip_rooms_ne t s.rooms
  simp only [strip, List.filter_filter, Bool.and_self, filter_onT_self h]

theorem strip_counters (t : Eio) (s : Srv) (a b c d : Nat) (bg : List Bg) (cd : List (Nat × List J)) :
    strip t { s with nConn := a, nEv := b, nDisc := c, nCall := d, bg := bg, callDone := cd } =
      strip t s := rfl

theorem filter_add_ne {r : Rooms.St} {t : Eio} {e : Entry} (he : e.eio ≠ t) :
    (Rooms.add r e).filter (fun e => e.eio != t) = Rooms.add (r.filter (fun e => e.eio != t)) e := by
  have hm : e ∈ r.filter (fun e => e.eio != t) ↔ e ∈ r := by
    rw [List.mem_filter]; simp [he]
  unfold Rooms.add
  by_cases h : e ∈ r
  · rw [if_pos h, if_pos (hm.mpr h)]
  · rw [if_neg h, if_neg (fun hh => h (hm.mp hh)), List.filter_append]
    simp [he]

theorem filter_roomsAfterConnect {r : Rooms.St} {t t' : Eio} (hne : t' ≠ t) (ns : Ns) (sid : Sid) :
    (roomsAfterConnect r ns t' sid).filter (fun e => e.eio != t) =
      roomsAfterConnect (r.filter (fun e => e.eio != t)) ns t' sid := by
  unfold roomsAfterConnect
  rw [filter_add_ne (by exact hne), filter_add_ne (by exact hne)]

theorem onT_roomsAfterConnect {r : Rooms.St} {t t' : Eio} (hne : t' ≠ t) (ns : Ns) (sid x : Sid) :
    onT (roomsAfterConnect r ns t' sid) t x = onT r t x :=
  onT_congr fun e _ h2 => by
    rw [roomsAfterConnect, mem_add, mem_add, or_iff_left (by rintro rfl; exact hne h2),
      or_iff_left (by rintro rfl; exact hne h2)]

theorem strip_connected {t t' : Eio} (hne : t' ≠ t) (s : Srv) (ns : Ns) (sid : Sid) (a b : Nat) :
    strip t { connected s (roomsAfterConnect s.rooms ns t' sid) with nConn := a } =
      strip t { connected (strip t s) (roomsAfterConnect (strip t s).rooms ns t' sid) with
        nConn := b } := by
  simp only [connected, strip, filter_roomsAfterConnect hne, onT_roomsAfterConnect hne, List.filter_filter, Bool.and_self,
    filter_onT_self (strip_rooms_ne t _)]

theorem strip_mgrDisconnect {t : Eio} (s : Srv) (sid : Sid) (ns : Ns) :
    strip t (mgrDisconnect s sid ns) = strip t (mgrDisconnect (strip t s) sid ns) := by
  have hno : ∀ e ∈ Rooms.disconnect (s.rooms.filter (fun e => e.eio != t)) ns sid, e.eio ≠ t :=
    fun e he => strip_rooms_ne t _ e (List.mem_filter.mp he).1
  -- callbacks and counters of the ended session go either way; for the others `onT` is unchanged
  have hon : ∀ {α : Type} (l : List (Sid × α)),
      (l.filter (fun c => c.1 != sid)).filter (fun c => !onT (Rooms.disconnect s.rooms ns sid) t c.1) =
        (l.filter (fun c => !onT s.rooms t c.1)).filter (fun c => c.1 != sid) := by
    intro α l
    rw [List.filter_filter, List.filter_filter]
    apply List.filter_congr
    intro c _
    by_cases hc : c.1 = sid
    · simp [hc]
    · rw [onT_disconnect_ne hc, Bool.and_comm]
  simp only [strip, mgrDisconnect, hon, filter_onT_self hno]
  simp only [Rooms.disconnect, List.filter_filter, Bool.and_self, Bool.and_comm,
    Bool.and_self_left]

theorem strip_popCb {t : Eio} (s : Srv) (sid : Sid) (i : Nat) :
    strip t (popCb s sid i) = strip t (popCb (strip t s) sid i) := by
  simp only [strip, popCb, List.filter_filter, Bool.and_self, Bool.and_comm,
    filter_onT_self (strip_rooms_ne t s.rooms)]

/-- a change of the reassembly buffer that commutes with dropping `t`'s entry -/
theorem strip_binbuf {t : Eio} (s : Srv) (f : List (Eio × Partial) → List (Eio × Partial))
    (hf : (f s.binbuf).filter (fun e => e.1 != t) =
      (f (s.binbuf.filter (fun e => e.1 != t))).filter (fun e => e.1 != t)) :
    strip t { s with binbuf := f s.binbuf } =
      strip t { strip t s with binbuf := f (strip t s).binbuf } := by
  simp only [strip, List.filter_filter, Bool.and_self, filter_onT_self (strip_rooms_ne t s.rooms), hf]

theorem loc_id (t : Eio) (s : Srv) (o : List Out) : Loc t (s, o) (strip t s, o) :=
  ⟨rfl, (strip_strip t s).symm⟩

theorem loc_handleAck {s : Srv} (h : WF s) {t t' : Eio} (hne : t' ≠ t) (nsp : Option Str)
    (id : Option Nat) (data : Option J) :
    Loc t (handleAck s t' nsp id data) (handleAck (strip t s) t' nsp id data) := by
  unfold handleAck
  dsimp only
  rw [sidOf_strip hne]
  cases hs : sidOf s.rooms (nsp.getD ['/']) t' with
  | none => exact loc_id t s []
  | some sid =>
    cases id with
    | none => exact loc_id t s []
    | some i =>
      dsimp only
      have hon := not_onT_of_sidOf h hne hs
      have hfind : (strip t s).cbs.find? (fun c => c.1 = sid ∧ c.2.1 = i) =
          s.cbs.find? (fun c => c.1 = sid ∧ c.2.1 = i) := by
        apply find_filter_of_imp
        intro x _ hx
        simp only [decide_eq_true_eq] at hx
        rw [hx.1, hon]; rfl
      rw [hfind]
      cases hf : s.cbs.find? (fun c => c.1 = sid ∧ c.2.1 = i) with
      | none => exact loc_id t s []
      | some c =>
        obtain ⟨a, b, tok⟩ := c
        dsimp only
        cases starArgs data with
        | error e => exact ⟨rfl, strip_popCb s sid i⟩
        | ok args => cases tok <;> exact ⟨rfl, strip_popCb s sid i⟩

theorem ackFor_strip {t t' : Eio} (hne : t' ≠ t) (s : Srv) (ns : Ns) (id : Option Nat) (d : Data) :
    ackFor (strip t s) t' ns id d = ackFor s t' ns id d := by
  unfold ackFor
  cases id with
  | none => rfl
  | some i => dsimp only; rw [sendTo_strip hne]

theorem loc_runHandler {cfg : Cfg} (hst : cfg.script.Stable) {t : Eio} (s : Srv) (b : Bg)
    (hne : b.eio ≠ t) : Loc t (runHandler cfg s b) (runHandler cfg (strip t s) b) := by
  rw [runHandler_eq, runHandler_eq, hst.ev (strip t s).nEv s.nEv]
  refine ⟨?_, (strip_strip t s).symm⟩
  cases (evRes cfg b (cfg.script.onEvent s.nEv)).2.2 with
  | none => rfl
  | some d => show _ ++ ackFor s _ _ _ d = _ ++ ackFor (strip t s) _ _ _ d; rw [ackFor_strip hne]

theorem loc_handleEvent {cfg : Cfg} (hst : cfg.script.Stable) {s : Srv} (h : WF s) {t t' : Eio}
    (hne : t' ≠ t) (nsp : Option Str) (id : Option Nat) (data : Option J) :
    Loc t (handleEvent cfg s t' nsp id data) (handleEvent cfg (strip t s) t' nsp id data) := by
  cases hd : splitEvent data with
  | error e =>
    have : ∀ s', handleEvent cfg s' t' nsp id data = (s', [.raised e]) := by
      intro s'; unfold handleEvent; rw [hd]
    rw [this, this]; exact loc_id t s _
  | ok p =>
    obtain ⟨first, rest⟩ := p
    cases hs : sidOf s.rooms (nsp.getD ['/']) t' with
    | none =>
      rw [handleEvent_not_connected cfg id hs hd,
        handleEvent_not_connected cfg id ((sidOf_strip hne s _).trans hs) hd]
      exact loc_id t s _
    | some sid =>
      rw [handleEvent_connected h cfg id hs hd,
        handleEvent_connected (h.strip t) cfg id ((sidOf_strip hne s _).trans hs) hd]
      cases cfg.asyncHandlers with
      | true => exact ⟨rfl, (strip_strip t s).symm⟩
      | false => exact loc_runHandler hst s _ hne

theorem strip_ending {t : Eio} (s : Srv) (sid : Sid) (ns : Ns) (k k' : Nat) :
    strip t (ending s sid ns k) = strip t (ending (strip t s) sid ns k') := by
  unfold ending
  rw [strip_mgrDisconnect, strip_mgrDisconnect (s := { strip t s with pending := _, nDisc := _ })]
  have : strip t { s with pending := s.pending ++ [(ns, sid)], nDisc := s.nDisc + k } =
      strip t { strip t s with pending := (strip t s).pending ++ [(ns, sid)],
                               nDisc := (strip t s).nDisc + k' } :=
    congrArg (fun x => { x with pending := x.pending ++ [(ns, sid)] }) (strip_strip t s).symm
  rw [this]

theorem loc_handleDisconnect {cfg : Cfg} (hst : cfg.script.Stable) {s : Srv} (h : WF s)
    {t t' : Eio} (hne : t' ≠ t) (ns : Ns) (reason : Str) :
    Loc t ((handleDisconnect cfg s t' ns reason).1, (handleDisconnect cfg s t' ns reason).2.1)
      ((handleDisconnect cfg (strip t s) t' ns reason).1,
        (handleDisconnect cfg (strip t s) t' ns reason).2.1) := by
  unfold handleDisconnect
  rw [sidOf_strip hne]
  cases hs : sidOf s.rooms ns t' with
  | none => exact loc_id t s []
  | some sid =>
    dsimp only
    rw [isConnected_of_sidOf h hs, isConnected_of_sidOf (h.strip t) ((sidOf_strip hne s _).trans hs)]
    simp only [Bool.not_true, Bool.false_eq_true, if_false]
    rw [endSession_eq, endSession_eq, hst.disc (strip t s).nDisc s.nDisc]
    exact ⟨rfl, strip_ending s sid ns _ _⟩

theorem loc_handleConnect {cfg : Cfg} (hst : cfg.script.Stable) {s : Srv} (h : WF s) {t t' : Eio}
    (hne : t' ≠ t) (nsp : Option Str) (data : Option J) :
    Loc t (handleConnect cfg s t' nsp data) (handleConnect cfg (strip t s) t' nsp data) := by
  have hu := h.strip t
  rcases connect_cases cfg s t' (nsp.getD ['/']) with hearly | ⟨hs, hn⟩
  · rw [handleConnect_refused_early cfg s t' nsp data hearly,
      handleConnect_refused_early cfg (strip t s) t' nsp data (by rw [sidOf_strip hne]; exact hearly),
      sendTo_strip hne]
    exact loc_id t s _
  have hn' := (sidOf_strip hne s _).trans hn
  by_cases ht : t' ∈ s.socks
  · rw [handleConnect_open h cfg data hs hn ht,
      handleConnect_open hu cfg data hs hn' ((mem_filter_ne hne).mpr ht),
      hst.conn (strip t s).nConn s.nConn]
    dsimp only
    rw [show (strip t s).nextSid = s.nextSid from rfl]
    cases resolve cfg.reg (nsp.getD ['/']) (.str "connect".toList)
        (.str (sidName s.nextSid) :: authArgs data) with
    | error e => exact ⟨rfl, strip_connected hne s _ _ _ _⟩
    | ok r =>
      dsimp only
      rcases connectCall (cfg.script.onConnect s.nConn) r with ⟨oi, k, _ | ⟨_ | _, why⟩⟩
      · exact ⟨rfl, strip_connected hne s _ _ _ _⟩
      · exact ⟨rfl, congrArg (bump 1) (strip_strip t s).symm⟩
      · exact ⟨rfl, strip_connected hne s _ _ _ _⟩
  · rw [handleConnect_no_environ h cfg data hs hn ht,
      handleConnect_no_environ hu cfg data hs hn' (fun hh => ht ((mem_filter_ne hne).mp hh))]
    exact ⟨rfl, strip_connected hne s _ _ _ _⟩

theorem dropBin_strip (t t' : Eio) (s : Srv) : dropBin (strip t s) t' = strip t (dropBin s t') := by
  simp only [dropBin, strip, List.filter_filter, Bool.and_comm]

theorem strip_storeBin {t t' : Eio} (s : Srv) (part : Partial) (v : J) :
    strip t (storeBin s t' part v) = strip t (storeBin (strip t s) t' part v) := by
  refine strip_binbuf s (fun b => setBin b t' { part with got := part.got ++ [v] }) ?_
  have key : ∀ b : List (Eio × Partial),
      (setBin b t' { part with got := part.got ++ [v] }).filter (fun e => e.1 != t) =
        setBin (b.filter (fun e => e.1 != t)) t' { part with got := part.got ++ [v] } := by
    intro b
    unfold setBin
    rw [List.filter_map]
    congr 1
    apply List.filter_congr
    intro e _
    by_cases ha : e.1 = t' <;> simp [ha]
  show (setBin s.binbuf t' _).filter _ = (setBin (s.binbuf.filter _) t' _).filter _
  rw [key, key, List.filter_filter]
  simp only [Bool.and_self]

theorem loc_dispatchPacket {cfg : Cfg} (hst : cfg.script.Stable) {s : Srv} (h : WF s) {t t' : Eio}
    (hne : t' ≠ t) (p : Packet) (n : Nat) :
    Loc t (dispatchPacket cfg s t' p n) (dispatchPacket cfg (strip t s) t' p n) := by
  unfold dispatchPacket
  by_cases h0 : p.type = CONNECT
  · simp only [if_pos h0]; exact loc_handleConnect hst h hne _ _
  simp only [if_neg h0]
  by_cases h1 : p.type = DISCONNECT
  · simp only [if_pos h1]; exact loc_handleDisconnect hst h hne _ _
  simp only [if_neg h1]
  by_cases h2 : p.type = EVENT
  · simp only [if_pos h2]; exact loc_handleEvent hst h hne _ _ _
  simp only [if_neg h2]
  by_cases h3 : p.type = ACK
  · simp only [if_pos h3]; exact loc_handleAck h hne _ _ _
  simp only [if_neg h3]
  by_cases h4 : (p.type = BINARY_EVENT || p.type = BINARY_ACK) = true
  · simp only [if_pos h4]; exact ⟨rfl, strip_binbuf s (· ++ [_])
      (by simp only [List.filter_append, List.filter_filter, Bool.and_self])⟩
  · simp only [if_neg h4]; exact loc_id t s _

theorem loc_handleFrame {dec : Str → Except Err (Packet × Nat)} {cfg : Cfg} (hst : cfg.script.Stable)
    {s : Srv} (h : WF s) {t t' : Eio} (hne : t' ≠ t) (v : J) :
    Loc t (handleFrame dec cfg s t' v) (handleFrame dec cfg (strip t s) t' v) := by
  have hfind : (strip t s).binbuf.find? (fun e => e.1 = t') = s.binbuf.find? (fun e => e.1 = t') :=
    find_filter_ne _ (fun hh => hne hh.symm)
  cases hf : s.binbuf.find? (fun e => e.1 = t') with
  | none =>
    rw [handleFrame_text dec cfg hf, handleFrame_text dec cfg (hfind.trans hf)]
    cases frameDecode dec v with
    | error e => exact loc_id t s _
    | ok pn => exact loc_dispatchPacket hst h hne pn.1 pn.2
  | some x =>
    obtain ⟨t0, part⟩ := x
    have hf' := hfind.trans hf
    by_cases h1 : part.need ≤ part.got.length
    · rw [handleFrame_tooMany dec cfg hf h1, handleFrame_tooMany dec cfg hf' h1]
      exact loc_id t s _
    · by_cases h2 : part.need = (part.got ++ [v]).length
      · cases h3 : reconData part (part.got ++ [v]) with
        | error e =>
          rw [handleFrame_reconErr dec cfg hf h1 h2 h3, handleFrame_reconErr dec cfg hf' h1 h2 h3]
          exact ⟨rfl, strip_storeBin s part v⟩
        | ok d =>
          rw [handleFrame_last dec cfg hf h1 h2 h3, handleFrame_last dec cfg hf' h1 h2 h3,
            dropBin_strip]
          have hw : WF (dropBin s t') := ⟨h.toWF0.filterBin _, h.pendingNil⟩
          by_cases h4 : part.pkt.type = BINARY_EVENT
          · rw [if_pos h4, if_pos h4]; exact loc_handleEvent hst hw hne _ _ _
          · rw [if_neg h4, if_neg h4]; exact loc_handleAck hw hne _ _ _
      · rw [handleFrame_more dec cfg hf h1 h2, handleFrame_more dec cfg hf' h1 h2]
        exact ⟨rfl, strip_storeBin s part v⟩

/-- inputs of a bystander transport -/
def ofOther (t : Eio) : Input → Bool
  | .eioConnect t' => t' != t
  | .frame t' _ => t' != t
  | _ => false

/-- **locality**: an input of another transport does to `strip t s` what it does to `s` -/
theorem loc_step {dec : Str → Except Err (Packet × Nat)} {cfg : Cfg} (hst : cfg.script.Stable)
    {s : Srv} (h : WF s) {t : Eio} {i : Input} (hi : ofOther t i = true) :
    Loc t (step dec cfg s i) (step dec cfg (strip t s) i) := by
  cases i with
  | eioConnect t' =>
    rw [step, step]
    refine ⟨rfl, ?_⟩
    have hno := strip_rooms_ne t s.rooms
    simp only [strip, List.filter_append, List.filter_filter, Bool.and_self,
      filter_onT_self hno]
  | frame t' v => rw [step, step]; exact loc_handleFrame hst h (by simpa [ofOther] using hi) v
  | eioLost _ _ | emit _ _ _ _ _ _ | call _ _ _ _ _ | apiDisconnect _ _ | enterRoom _ _ _
  | leaveRoom _ _ _ | closeRoom _ _ | rooms _ _ | getSession _ _ | saveSession _ _ _
  | sessionBlock _ _ _ _ | settle => cases hi

theorem loc_of_strip_eq {dec : Str → Except Err (Packet × Nat)} {cfg : Cfg} (hst : cfg.script.Stable)
    {s₁ s₂ : Srv} (h₁ : WF s₁) (h₂ : WF s₂) {t : Eio} (hs : strip t s₁ = strip t s₂) {i : Input}
    (hi : ofOther t i = true) : Loc t (step dec cfg s₁ i) (step dec cfg s₂ i) := by
  have l1 := loc_step (dec := dec) hst h₁ hi
  have l2 := loc_step (dec := dec) hst h₂ hi
  rw [hs] at l1
  exact ⟨l1.1.trans l2.1.symm, l1.2.trans l2.2.symm⟩

end Sio.Server
