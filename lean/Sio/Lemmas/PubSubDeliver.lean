/-
  K6 (pub/sub): the callback relay end to end — an acknowledged event whose relay
  entry points at a user callback on the issuing host invokes exactly that callback, with the
  client's arguments, once every host has drained.
-/
import Sio.Lemmas.PubSubLinked
namespace Sio.PubSub
open Sio.Rooms

/-- the callback invocations among the outputs -/
def cbOuts (outs : List Out) : List Out := outs.filter isCallbackOut

theorem cbOuts_append (a b : List Out) : cbOuts (a ++ b) = cbOuts a ++ cbOuts b := by
  simp [cbOuts]

theorem find_connected {home : Sid → HostId} {c : Cluster} (hrun : Running home c) {hs : Host}
    (hhs : hs ∈ c.hosts) {ns : Ns} {sid : Sid} (hconn : hs.connected ns sid = true) :
    c.hosts.find? (fun h => h.connected ns sid) = some hs := by
  have hhome : ∀ h ∈ c.hosts, h.connected ns sid = true → home sid = h.id := by
    intro h hh hc
    obtain ⟨eio, he⟩ := Option.isSome_iff_exists.mp hc
    exact hrun.home h hh _ (eioOf_some_mem he)
  cases hf : c.hosts.find? (fun h => h.connected ns sid) with
  | none =>
    have := List.find?_eq_none.mp hf hs hhs
    simp [hconn] at this
  | some h0 =>
    have h0in := List.mem_of_find?_eq_some hf
    have h0c : h0.connected ns sid = true := by simpa using List.find?_some hf
    have : h0 = hs := eq_of_map_eq hrun.ids h0in hhs
      ((hhome h0 h0in h0c).symm.trans (hhome hs hhs hconn))
    rw [this]

/-- **The relay, end to end.**  All hosts have drained.  Client `sid` (on host `hs`) acknowledges the
    `n`-th event that asked it to; the relay entry of that event on `hs` names host `hv` and the slot
    `(k, id0)`, where `hv` still holds the user callback `tok`.  Then the acknowledgement followed by
    one drain pass invokes exactly one callback: `tok`, on `hv`, with the client's arguments. -/
theorem callback_delivered {home : Sid → HostId} (c : Cluster) (hrun : Running home c)
    (hdr : ∀ h ∈ c.hosts, h.cursor = c.chan.length) (hs hv : Host) (hhs : hs ∈ c.hosts)
    (hhv : hv ∈ c.hosts) (ns : Ns) (sid : Sid) (n ic : Nat) (args : List J) (k : Str) (ns' : Ns)
    (id0 tok : Nat) (hconn : hs.connected ns sid = true) (hnth : nthAsked c.asked sid n = some ic)
    (hrel : hs.cbs sid ic = some (.relay (some hv.id) k ns' id0))
    (huser : hv.cbs k id0 = some (.user tok)) :
    cbOuts ((step c (.ack ns sid n args)).2 ++ (step (step c (.ack ns sid n args)).1 .drain).2) =
      [.callback hv.id tok args] := by
  have hstep : step c (.ack ns sid n args) = c.on hs.id (fun h => apiAck h sid ic args) := by
    show (match c.hosts.find? (fun h => h.connected ns sid), nthAsked c.asked sid n with
      | some h, some i => c.on h.id (fun h => apiAck h sid i args)
      | _, _ => (c, [])) = _
    rw [find_connected hrun hhs hconn, hnth]
  rw [hstep]
  have hcur := (apiAck_effect hs sid ic args).cursor
  by_cases hsame : hv.id = hs.id
  · -- the issuing host is the client's own host
    have : hv = hs := eq_of_map_eq hrun.ids hhv hhs hsame
    subst this
    have hne : ¬ (k = sid ∧ id0 = ic) := by
      rintro ⟨rfl, rfl⟩
      rw [hrel] at huser; cases huser
    have hdel : (delCb hv sid ic).cbs k id0 = some (.user tok) := by
      simp only [delCb, if_neg hne]; exact huser
    have hack : apiAck hv sid ic args =
        { h := delCb (delCb hv sid ic) k id0, outs := [.callback hv.id tok args] } := by
      rw [apiAck_eq]
      -- two links of the chain; `chainFuel` allows eight
      rw [show chainFuel = 6 + 1 + 1 from rfl, trigger_relay_local hrel]
      exact trigger_user hdel
    -- nothing was published: the drain pass is idle
    have hq : ∀ h : Host, synced hv (fun h => apiAck h sid ic args) h =
        { h := if h.id = hv.id then delCb (delCb hv sid ic) k id0 else h } :=
      fun h => by rw [synced, hack]; rfl
    obtain ⟨_, hout⟩ := on_moves c hrun.ids hdr hv hhv (fun h => apiAck h sid ic args) hcur
      fun h _ => by rw [hq]
    show cbOuts (onSync c hv _).2 = _
    rw [hout, hack, List.flatMap_eq_nil_iff.mpr fun h _ => by rw [hq]]
    rfl
  · -- the acknowledgement travels the channel to the issuing host
    have ho : (some hv.id : Option HostId) ≠ some hs.id := by simpa using hsame
    have hack : apiAck hs sid ic args =
        { h := delCb hs sid ic, pubs := [.callback (some hv.id) k ns' id0 args] } := by
      rw [apiAck_eq]
      exact trigger_relay_remote hrel ho
    -- only `hv` reacts to the entry, and publishes nothing
    have hq : ∀ h ∈ c.hosts, (synced hs (fun h => apiAck h sid ic args) h).pubs = [] ∧
        (synced hs (fun h => apiAck h sid ic args) h).outs =
          if h.id = hv.id then [Out.callback hv.id tok args] else [] :=
      hosts_cases hrun.ids hhs
        (by
          rw [synced_self, hack]
          show (listenMsg _ _).pubs ++ [] = [] ∧ (listenMsg _ _).outs ++ [] = _
          have h1 : ¬ (some hv.id = some (delCb hs sid ic).id) := ho
          rw [listenMsg_callback, if_neg h1, if_neg (Ne.symm hsame)]
          exact ⟨rfl, rfl⟩)
        (fun h hh hid => by
          rw [synced_other _ hid, hack]
          show (listenMsg _ _).pubs ++ [] = [] ∧ (listenMsg _ _).outs ++ [] = _
          rw [listenMsg_callback]
          by_cases hv' : h.id = hv.id
          · obtain rfl := eq_of_map_eq hrun.ids hh hhv hv'
            have ht : trigger chainFuel h k id0 (some args) = _ := trigger_user huser
            rw [if_pos rfl, if_pos rfl, ht]
            exact ⟨rfl, rfl⟩
          · have h1 : ¬ (some hv.id = some h.id) := fun he => hv' (Option.some.inj he).symm
            rw [if_neg h1, if_neg hv']
            exact ⟨rfl, rfl⟩)
    obtain ⟨_, hout⟩ := on_moves c hrun.ids hdr hs hhs (fun h => apiAck h sid ic args) hcur
      fun h hh => (hq h hh).1
    show cbOuts (onSync c hs _).2 = _
    rw [hout, hack]
    exact congrArg cbOuts ((flatMap_congr' fun h hh => (hq h hh).2).trans
      (flatMap_if_id _ hrun.ids hv hhv fun _ => [Out.callback hv.id tok args]))

/-- every callback invoked in `outs` gets exactly `xs`, every `callback` message in `pubs` carries
    exactly `xs` -/
def CarriesArgs (xs : List J) (r : Res) : Prop :=
  (∀ o ∈ r.outs, ∀ host t a, o = Out.callback host t a → a = xs) ∧
  (∀ m ∈ r.pubs, ∀ o k n i a, m = Msg.callback o k n i a → a = xs)

theorem trigger_carries (fuel : Nat) (h : Host) (key : Str) (id : Nat) (xs : List J) :
    CarriesArgs xs (trigger fuel h key id (some xs)) := by
  have none : ∀ h : Host, CarriesArgs xs { h := h } :=
    fun _ => ⟨fun _ ho => (nomatch ho), fun _ hm => (nomatch hm)⟩
  refine trigger_induct (P := fun _ r => CarriesArgs xs r) (some xs) none
    (fun _ _ _ hx => nomatch hx) ?_ ?_ (fun _ _ _ _ ih => ih) fuel h key id
  · intro h key id t ys hx _
    refine ⟨fun o ho host t' a he => ?_, fun _ hm => (nomatch hm)⟩
    cases List.mem_singleton.mp ho; cases he; exact (Option.some.inj hx).symm
  · intro h key id o k n i ys hx _
    refine ⟨fun _ ho => (nomatch ho), fun m hm o' k' n' i' a he => ?_⟩
    cases List.mem_singleton.mp hm; cases he; exact (Option.some.inj hx).symm

end Sio.PubSub
