/-
  C01 phase 2 — the JSON reader inverts the printer on numbers.
-/
import Sio.Model.JsonParse
import Sio.Lemmas.CodecDigits
namespace Sio
open JP

/-- A float literal the reader keeps as it is: non-empty, made of number characters, of the
    JSON `int frac? exp?` shape with a fraction or an exponent (so not an integer literal).
    Every `repr` of a finite Python float is of this form. -/
def FltOK (l : Str) : Bool :=
  !l.isEmpty && l.all isNumChar && !isIntLit l && isFloatLit l

/-- what may follow a number: the end of the text or a character that cannot continue it -/
def delim : Str → Bool
  | [] => true
  | c :: _ => !isNumChar c

theorem isNumChar_of_isDigit {c : Char} (h : c.isDigit = true) : isNumChar c = true := by
  simp [isNumChar, h]

theorem natStr_head_ne_zero (n : Nat) (h : 0 < n) : (natStr n).head? ≠ some '0' := by
  induction n using Nat.strongRecOn with
  | _ n ih =>
    rw [natStr, Nat.toDigits_eq_if (by decide)]
    split
    · simp only [List.head?_cons, ne_eq, Option.some.injEq, Nat.digitChar_eq_zero]; omega
    · obtain ⟨d, ds, hd, _⟩ := natStr_cons (n / 10)
      have := ih (n / 10) (by omega) (by omega)
      rw [hd] at this
      show (natStr (n / 10) ++ _).head? ≠ _
      rw [hd]; exact this

theorem digitsOK_natStr (n : Nat) : digitsOK (natStr n) = true := by
  have hall : (natStr n).all Char.isDigit = true :=
    List.all_eq_true.mpr fun c hc => natStr_isDigit hc
  simp only [digitsOK, natStr_isEmpty, hall, Bool.not_false, Bool.true_and, Bool.or_eq_true, beq_iff_eq,
    bne_iff_ne, ne_eq]
  by_cases h0 : n = 0
  · subst h0; left; rfl
  · right; exact natStr_head_ne_zero n (by omega)

theorem isIntLit_of_head {s : Str} (h : s.head? ≠ some '-') : isIntLit s = digitsOK s := by
  unfold isIntLit
  split
  · simp at h
  · rfl

theorem intVal_of_head {s : Str} (h : s.head? ≠ some '-') :
    intVal s = Int.ofNat (Nat.ofDigitChars 10 s 0) := by
  unfold intVal
  split
  · simp at h
  · rfl

theorem natStr_head_ne_dash (n : Nat) : (natStr n).head? ≠ some '-' := by
  obtain ⟨d, ds, hd, hdd⟩ := natStr_cons n
  rw [hd]
  simp only [List.head?_cons, ne_eq, Option.some.injEq]
  rintro rfl; simp at hdd

theorem isIntLit_intStr (i : Int) : isIntLit (intStr i) = true := by
  cases i with
  | ofNat n => rw [intStr, isIntLit_of_head (natStr_head_ne_dash n)]; exact digitsOK_natStr n
  | negSucc n => exact digitsOK_natStr (n + 1)

theorem intVal_intStr (i : Int) : intVal (intStr i) = i := by
  cases i with
  | ofNat n =>
    rw [intStr, intVal_of_head (natStr_head_ne_dash n)]
    simp [natStr]
  | negSucc n =>
    show Int.negOfNat (Nat.ofDigitChars 10 (natStr (n + 1)) 0) = Int.negSucc n
    simp [natStr]; rfl

theorem intStr_all_numChar (i : Int) : ∀ c ∈ intStr i, isNumChar c = true := by
  cases i with
  | ofNat n => exact fun c hc => isNumChar_of_isDigit (natStr_isDigit hc)
  | negSucc n =>
    intro c hc
    simp only [intStr, List.mem_cons] at hc
    rcases hc with rfl | hc
    · rfl
    · exact isNumChar_of_isDigit (natStr_isDigit hc)

theorem intStr_cons (i : Int) : ∃ c r, intStr i = c :: r ∧ isNumChar c = true := by
  cases h : intStr i with
  | nil =>
    cases i with
    | ofNat n => exact absurd h (natStr_ne_nil n)
    | negSucc n => cases h
  | cons c r => exact ⟨c, r, rfl, intStr_all_numChar i c (by rw [h]; simp)⟩

theorem takeWhile_token {tok rest : Str} (ht : ∀ c ∈ tok, isNumChar c = true) (hr : delim rest = true) :
    (tok ++ rest).takeWhile isNumChar = tok := by
  cases rest with
  | nil => simpa using takeWhile_all ht
  | cons c r =>
    simp only [delim, Bool.not_eq_eq_eq_not, Bool.not_true] at hr
    exact takeWhile_stop ht hr

theorem number_int (i : Int) (rest : Str) (hr : delim rest = true) :
    number (intStr i ++ rest) = .ok (.int i, rest) := by
  have h1 := takeWhile_token (intStr_all_numChar i) hr
  simp only [number, h1, List.drop_left, isIntLit_intStr, intVal_intStr, if_true]

theorem number_flt (l rest : Str) (hl : FltOK l = true) (hr : delim rest = true) :
    number (l ++ rest) = .ok (.flt l, rest) := by
  simp only [FltOK, Bool.and_eq_true, Bool.not_eq_eq_eq_not, Bool.not_true, List.all_eq_true] at hl
  obtain ⟨⟨⟨_, hall⟩, hni⟩, hf⟩ := hl
  have h1 := takeWhile_token hall hr
  simp [number, h1, hni, hf]

theorem fltOK_cons {l : Str} (hl : FltOK l = true) : ∃ c r, l = c :: r ∧ isNumChar c = true := by
  simp only [FltOK, Bool.and_eq_true, Bool.not_eq_eq_eq_not, Bool.not_true, List.all_eq_true] at hl
  obtain ⟨⟨⟨hne, hall⟩, _⟩, _⟩ := hl
  cases l with
  | nil => simp at hne
  | cons c r => exact ⟨c, r, rfl, hall c (by simp)⟩

/-- the `repr`s of some Python floats -/
example : FltOK "1.5".toList = true ∧ FltOK "-0.0".toList = true ∧ FltOK "1e+100".toList = true ∧
    FltOK "1e-07".toList = true ∧ FltOK "123456789.125".toList = true ∧
    FltOK "3.141592653589793".toList = true ∧ FltOK "1".toList = false ∧ FltOK "01.5".toList = false ∧
    FltOK "1.".toList = false ∧ FltOK "inf".toList = false ∧ FltOK "".toList = false := by decide +kernel

end Sio
