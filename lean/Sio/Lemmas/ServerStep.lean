/-
  K4 — what each handler of the server core does to the state (one characterisation lemma per
  handler), and that this is a finite sequence of primitive changes (`Reach`).  Hence every input
  and every history is one, and the invariant `WF` holds along any history, for every decoder,
  configuration and script.
-/
import Sio.Lemmas.ServerReach
import Sio.Lemmas.ServerFrame
namespace Sio.Server
open Sio.Rooms

/-- the state in which `basic_disconnect` runs at the end of a disconnect path -/
def ending (s : Srv) (sid : Sid) (ns : Ns) (k : Nat) : Srv :=
  mgrDisconnect { s with pending := s.pending ++ [(ns, sid)], nDisc := s.nDisc + k } sid ns

/-- the handler `resolve` selected, with its arguments -/
def Resolved.target : Resolved → Option (Slot × List J)
  | .fn slot a => some (slot, a)
  | .clsCall slot a => some (slot, a)
  | _ => none

/-- What the disconnect handler contributes to the disconnect path, as a function of its outcome
    `c` only: handler calls made, outputs, and whether an exception was raised. -/
def discRes (cfg : Cfg) (ns : Ns) (sid : Sid) (reason : Str) (c : DiscRes) : Nat × List Out × Bool :=
  match resolve cfg.reg ns (.str "disconnect".toList) [.str sid, .str reason] with
  | .error _ => (0, [.raised .typeError], true)
  | .ok r =>
    match r.target with
    | some (slot, a) =>
      match c with
      | .ok => (1, [.invoke slot a], false)
      | .raise => (1, [.invoke slot a, .raised .other], true)
    | none => (0, [], false)

theorem endSession_eq (cfg : Cfg) (s : Srv) (sid : Sid) (ns : Ns) (reason : Str) (b : Bool) :
    endSession cfg s sid ns reason b =
      (ending s sid ns (discRes cfg ns sid reason (cfg.script.onDisconnect s.nDisc)).1,
        (if b then sendTo s (eioOf s.rooms ns sid) (pktDisconnect ns none) else []) ++
          (discRes cfg ns sid reason (cfg.script.onDisconnect s.nDisc)).2.1,
        (discRes cfg ns sid reason (cfg.script.onDisconnect s.nDisc)).2.2) := by
  unfold endSession discRes ending
  dsimp only
  cases resolve cfg.reg ns (.str "disconnect".toList) [.str sid, .str reason] with
  | error e => rfl
  | ok r =>
    cases r <;> dsimp only [Resolved.target] <;> (try cases cfg.script.onDisconnect s.nDisc) <;> rfl

theorem discRes_outs (cfg : Cfg) (ns : Ns) (sid : Sid) (reason : Str) (c : DiscRes) :
    (discRes cfg ns sid reason c).2.1 = [] ∨ (discRes cfg ns sid reason c).2.1 = [.raised .typeError] ∨
    ∃ r slot a, resolve cfg.reg ns (.str "disconnect".toList) [.str sid, .str reason] = .ok r ∧
      r.target = some (slot, a) ∧
      ((discRes cfg ns sid reason c).2.1 = [.invoke slot a] ∨
        (discRes cfg ns sid reason c).2.1 = [.invoke slot a, .raised .other]) := by
  unfold discRes
  cases hr : resolve cfg.reg ns (.str "disconnect".toList) [.str sid, .str reason] with
  | error e => exact Or.inr (Or.inl rfl)
  | ok r =>
    dsimp only
    cases ht : r.target with
    | none => exact Or.inl rfl
    | some p =>
      refine Or.inr (Or.inr ⟨r, p.1, p.2, rfl, ht, ?_⟩)
      cases c
      · exact Or.inl rfl
      · exact Or.inr rfl

theorem endSession_state (cfg : Cfg) (s : Srv) (sid : Sid) (ns : Ns) (reason : Str) (b : Bool) :
    ∃ k, (endSession cfg s sid ns reason b).1 = ending s sid ns k :=
  ⟨_, congrArg Prod.fst (endSession_eq cfg s sid ns reason b)⟩

theorem WF.ending {s : Srv} (h : WF s) (sid : Sid) (ns : Ns) (k : Nat) : WF (ending s sid ns k) := by
  have h1 : WF0 { s with pending := s.pending ++ [(ns, sid)], nDisc := s.nDisc + k } :=
    h.toWF0.congr rfl
  refine ⟨h1.mgrDisconnect sid ns, ?_⟩
  simp [Server.ending, Server.mgrDisconnect, h.pendingNil]

theorem isConnected_eioOf {s : Srv} {sid : Sid} {ns : Ns} (h : isConnected s sid ns = true) :
    ∃ t, eioOf s.rooms ns sid = some t := by
  unfold isConnected at h
  simp only [Bool.and_eq_true] at h
  exact Option.isSome_iff_exists.mp h.2

theorem Reach.ending {s : Srv} (h : WF s) {sid : Sid} {ns : Ns} {t : Eio}
    (he : eioOf s.rooms ns sid = some t) (k : Nat) : Reach s (ending s sid ns k) := by
  refine Reach.one h (Prim.disc he ?_)
  simp [Server.ending, Server.mgrDisconnect, Server.core, h.pendingNil]

theorem Reach.endSession {s : Srv} (h : WF s) (cfg : Cfg) {sid : Sid} {ns : Ns}
    (hc : isConnected s sid ns = true) (reason : Str) (b : Bool) :
    Reach s (endSession cfg s sid ns reason b).1 := by
  obtain ⟨t, ht⟩ := isConnected_eioOf hc
  rw [endSession_eq]; exact Reach.ending h ht _

theorem handleDisconnect_state (cfg : Cfg) (s : Srv) (t : Eio) (ns : Ns) (reason : Str) :
    (handleDisconnect cfg s t ns reason).1 = s ∧ (handleDisconnect cfg s t ns reason).2.1 = [] ∨
    ∃ sid k, sidOf s.rooms ns t = some sid ∧ isConnected s sid ns = true ∧
      (handleDisconnect cfg s t ns reason).1 = ending s sid ns k := by
  unfold handleDisconnect
  cases hs : sidOf s.rooms ns t with
  | none => exact Or.inl ⟨rfl, rfl⟩
  | some sid =>
    dsimp only
    cases hc : isConnected s sid ns with
    | false => exact Or.inl ⟨rfl, rfl⟩
    | true =>
      obtain ⟨k, hk⟩ := endSession_state cfg s sid ns reason false
      exact Or.inr ⟨sid, k, rfl, hc, hk⟩

theorem Reach.handleDisconnect {s : Srv} (h : WF s) (cfg : Cfg) (t : Eio) (ns : Ns) (reason : Str) :
    Reach s (handleDisconnect cfg s t ns reason).1 := by
  rcases handleDisconnect_state cfg s t ns reason with ⟨h1, _⟩ | ⟨sid, k, _, hc, h1⟩
  · rw [h1]; exact Reach.refl s
  · obtain ⟨t', ht⟩ := isConnected_eioOf hc
    rw [h1]; exact Reach.ending h ht k

theorem WF.handleDisconnect {s : Srv} (h : WF s) (cfg : Cfg) (t : Eio) (ns : Ns) (reason : Str) :
    WF (handleDisconnect cfg s t ns reason).1 :=
  (Reach.handleDisconnect h cfg t ns reason).wf h

theorem Reach.apiDisconnect {s : Srv} (h : WF s) (cfg : Cfg) (sid : Sid) (ns : Ns) :
    Reach s (apiDisconnect cfg s sid ns).1 := by
  unfold Server.apiDisconnect
  cases hc : isConnected s sid ns with
  | false => exact Reach.refl s
  | true => exact Reach.endSession h cfg hc ..

theorem WF.apiDisconnect {s : Srv} (h : WF s) (cfg : Cfg) (sid : Sid) (ns : Ns) :
    WF (apiDisconnect cfg s sid ns).1 :=
  (Reach.apiDisconnect h cfg sid ns).wf h

theorem disconnect_add (r : Rooms.St) (e : Entry) :
    Rooms.disconnect (Rooms.add r e) e.ns e.sid = Rooms.disconnect r e.ns e.sid := by
  unfold Rooms.add Rooms.disconnect
  split
  · rfl
  · simp [List.filter_append]

theorem connect_disconnect {r r' : Rooms.St} {ns : Ns} {t : Eio} {sid : Sid}
    (hc : Rooms.connect r ns t sid = some r') (h : ∀ e ∈ r, e.sid ≠ sid) :
    Rooms.disconnect r' ns sid = r := by
  unfold Rooms.connect at hc
  split at hc
  · cases hc
  · cases hc
    have h1 := disconnect_add (Rooms.add r ⟨ns, none, sid, t⟩) ⟨ns, some sid, sid, t⟩
    have h2 := disconnect_add r ⟨ns, none, sid, t⟩
    simp only at h1 h2
    rw [h1, h2, Rooms.disconnect, List.filter_eq_self]
    intro e he
    simp [h e he]

theorem filter_sid_ne_self {α : Type} {l : List (Sid × α)} {sid : Sid} (h : ∀ c ∈ l, c.1 ≠ sid) :
    l.filter (fun c => c.1 != sid) = l := by
  rw [List.filter_eq_self]
  intro c hc
  simp [h c hc]

theorem sid_ne_fresh {s : Srv} (h : WF0 s) {sid : Sid} (hl : sidLive s.rooms sid) :
    sid ≠ sidName s.nextSid := by
  obtain ⟨ns, eio, he⟩ := hl
  exact h.fresh he

/-- the state after a refused connection, before simplification -/
def refusedSt (s : Srv) (rooms' : Rooms.St) (ns : Ns) (k : Nat) (p : List (Ns × Sid)) : Srv :=
  mgrDisconnect { connected s rooms' with nConn := s.nConn + k, pending := p } (sidName s.nextSid) ns

/-- a refused connection leaves nothing behind but the consumed session id and script step -/
theorem refusedSt_eq {s : Srv} (h : WF0 s) {ns : Ns} {t : Eio} {rooms' : Rooms.St}
    (hc : Rooms.connect s.rooms ns t (sidName s.nextSid) = some rooms') (k : Nat)
    (p : List (Ns × Sid)) :
    refusedSt s rooms' ns k p =
      { s with nextSid := s.nextSid + 1, nConn := s.nConn + k,
               pending := p.filter (fun q => !(q.1 = ns ∧ q.2 = sidName s.nextSid)) } := by
  have h1 : Rooms.disconnect rooms' ns (sidName s.nextSid) = s.rooms :=
    connect_disconnect hc (fun _ => h.fresh)
  have h2 := filter_sid_ne_self (l := s.cbs) (sid := sidName s.nextSid)
    (fun c hc => sid_ne_fresh h (h.cbsLive c hc))
  have h3 := filter_sid_ne_self (l := s.ctr) (sid := sidName s.nextSid)
    (fun c hc => sid_ne_fresh h (h.ctrLive c hc))
  simp only [refusedSt, Server.mgrDisconnect, connected, h1, h2, h3]

/-- `[auth]` when the CONNECT payload is truthy -/
def authArgs : Option J → List J
  | some d => if d.truthy then [d] else []
  | none => []

/-- What calling the connect handler that `r` stands for yields when its outcome is `res`: the
    outputs, by how much the connect script moves, and `success` (`none`: the handler raised). -/
def connectCall (res : ConnRes) : Resolved → List Out × Nat × Option (Bool × J)
  | .fn slot args | .clsCall slot args =>
    match res with
    | .accept => ([.invoke slot args], 1, some (true, errorArgs []))
    | .retFalse => ([.invoke slot args], 1, some (false, errorArgs []))
    | .refuse a => ([.invoke slot args], 1, some (false, errorArgs a))
    | .raise => ([.invoke slot args, .raised .other], 1, none)
  | _ => ([], 0, some (true, errorArgs []))

/-- the end of `_handle_connect`, from `success` -/
def connectEnd (always : Bool) (s : Srv) (t : Eio) (ns : Ns) (sid : Sid) (o : List Out) :
    Option (Bool × J) → Srv × List Out
  | none => (s, o)
  | some (true, _) => (s, o ++ if always then [] else sendTo s (some t) (pktConnect ns sid))
  | some (false, why) =>
    if always then
      (mgrDisconnect { s with pending := s.pending ++ [(ns, sid)] } sid ns,
        o ++ sendTo s (some t) (pktDisconnect ns (some why)))
    else (mgrDisconnect s sid ns, o ++ sendTo s (some t) (pktConnectError ns why))

theorem handleConnect_eq (cfg : Cfg) (s : Srv) (t : Eio) (nsp : Option Str) (d : Option J) :
    handleConnect cfg s t nsp d =
      match (if isServed cfg (nsp.getD ['/']) then
          Rooms.connect s.rooms (nsp.getD ['/']) t (sidName s.nextSid) else none) with
      | none => (s, sendTo s (some t) (pktConnectError (nsp.getD ['/']) (.str "Unable to connect".toList)))
      | some rooms' =>
        let o0 := if cfg.alwaysConnect then sendTo s (some t) (pktConnect (nsp.getD ['/']) (sidName s.nextSid)) else []
        if !s.environ.contains t then (connected s rooms', o0 ++ [.raised .keyError]) else
        match resolve cfg.reg (nsp.getD ['/']) (.str "connect".toList) (.str (sidName s.nextSid) :: authArgs d) with
        | .error _ => (connected s rooms', o0 ++ [.raised .typeError])
        | .ok r =>
          let k := connectCall (cfg.script.onConnect s.nConn) r
          connectEnd cfg.alwaysConnect { connected s rooms' with nConn := s.nConn + k.2.1 } t
            (nsp.getD ['/']) (sidName s.nextSid) (o0 ++ k.1) k.2.2 := by
  unfold handleConnect
  dsimp only
  generalize (if isServed cfg (nsp.getD ['/']) = true then
    Rooms.connect s.rooms (nsp.getD ['/']) t (sidName s.nextSid) else none) = conn
  cases conn with
  | none => rfl
  | some rooms' =>
    dsimp only
    cases s.environ.contains t
    · rfl
    show (match resolve cfg.reg (nsp.getD ['/']) (.str "connect".toList)
        (.str (sidName s.nextSid) :: authArgs d) with | .error _ => _ | .ok r => _) = _
    cases resolve cfg.reg (nsp.getD ['/']) (.str "connect".toList)
        (.str (sidName s.nextSid) :: authArgs d) with
    | error e => rfl
    | ok r =>
      cases r with
      | fn slot a | clsCall slot a => dsimp only [connectCall]; cases cfg.script.onConnect s.nConn <;> rfl
      | clsNoMethod | notHandled => rfl

theorem sendTo_forall {P : Out → Prop} {t : Eio} {ns : Ns} (hsend : ∀ p, p.nsp = some ns → P (.send t p))
    (s : Srv) {p : Packet} (hp : p.nsp = some ns) : ∀ o ∈ sendTo s (some t) p, P o := by
  unfold sendTo
  dsimp only
  cases s.socks.contains t
  · exact fun _ ho => nomatch ho
  · exact List.forall_mem_singleton.mpr (hsend p hp)

theorem connectCall_all {P : Out → Prop} (hraise : ∀ e, P (.raised e)) (res : ConnRes) {r : Resolved}
    (hinv : ∀ slot a, r.target = some (slot, a) → P (.invoke slot a)) :
    ∀ o ∈ (connectCall res r).1, P o := by
  have one : ∀ slot a, P (.invoke slot a) → ∀ o ∈ (connectCall res (.fn slot a)).1, P o := by
    intro slot a hi
    have single : ∀ o ∈ [Out.invoke slot a], P o := List.forall_mem_singleton.mpr hi
    cases res with
    | raise => exact List.forall_mem_cons.mpr ⟨hi, List.forall_mem_singleton.mpr (hraise _)⟩
    | _ => exact single
  cases r with
  | fn slot a | clsCall slot a => exact one slot a (hinv _ _ rfl)
  | clsNoMethod | notHandled => exact fun _ ho => nomatch ho

theorem connectEnd_all {P : Out → Prop} {t : Eio} {ns : Ns}
    (hsend : ∀ p, p.nsp = some ns → P (.send t p)) (always : Bool) (s : Srv) (sid : Sid)
    {o : List Out} (ho : ∀ x ∈ o, P x) (oc : Option (Bool × J)) :
    ∀ x ∈ (connectEnd always s t ns sid o oc).2, P x := by
  rcases oc with _ | ⟨_ | _, why⟩
  · exact ho
  · cases always <;> exact List.forall_mem_append.mpr ⟨ho, sendTo_forall hsend _ rfl⟩
  · cases always
    · exact List.forall_mem_append.mpr ⟨ho, sendTo_forall hsend _ rfl⟩
    · exact List.forall_mem_append.mpr ⟨ho, fun _ h => nomatch h⟩

theorem handleConnect_all {P : Out → Prop} {t : Eio} {nsp : Option Str}
    (hsend : ∀ p, p.nsp = some (nsp.getD ['/']) → P (.send t p)) (hraise : ∀ e, P (.raised e))
    {cfg : Cfg} {s : Srv} {d : Option J}
    (hinv : ∀ r slot a, resolve cfg.reg (nsp.getD ['/']) (.str "connect".toList)
        (.str (sidName s.nextSid) :: authArgs d) = .ok r →
      r.target = some (slot, a) → P (.invoke slot a)) :
    ∀ o ∈ (handleConnect cfg s t nsp d).2, P o := by
  rw [handleConnect_eq]
  generalize (if isServed cfg (nsp.getD ['/']) = true then
    Rooms.connect s.rooms (nsp.getD ['/']) t (sidName s.nextSid) else none) = conn
  cases conn with
  | none => exact sendTo_forall hsend _ rfl
  | some rooms' =>
    dsimp only
    have h0 : ∀ o ∈ (if cfg.alwaysConnect = true then
        sendTo s (some t) (pktConnect (nsp.getD ['/']) (sidName s.nextSid)) else []), P o := by
      cases cfg.alwaysConnect
      · exact fun _ h => nomatch h
      · exact sendTo_forall hsend _ rfl
    have herr : ∀ e, ∀ o ∈ _ ++ [.raised e], P o := fun e =>
      List.forall_mem_append.mpr ⟨h0, List.forall_mem_singleton.mpr (hraise e)⟩
    cases s.environ.contains t
    · exact herr _
    cases hr : resolve cfg.reg (nsp.getD ['/']) (.str "connect".toList)
        (.str (sidName s.nextSid) :: authArgs d) with
    | error e => exact herr _
    | ok r =>
      exact connectEnd_all hsend _ _ _
        (List.forall_mem_append.mpr ⟨h0, connectCall_all hraise _ (hinv r · · hr)⟩) _

theorem connectEnd_state (always : Bool) (s : Srv) (t : Eio) (ns : Ns) (sid : Sid) (o : List Out)
    (oc : Option (Bool × J)) :
    (connectEnd always s t ns sid o oc).1 = s ∨
      ∃ p, (p = s.pending ∨ p = s.pending ++ [(ns, sid)]) ∧
        (connectEnd always s t ns sid o oc).1 = mgrDisconnect { s with pending := p } sid ns := by
  rcases oc with _ | ⟨_ | _, why⟩
  · exact Or.inl rfl
  · cases always
    · exact Or.inr ⟨_, Or.inl rfl, rfl⟩
    · exact Or.inr ⟨_, Or.inr rfl, rfl⟩
  · exact Or.inl rfl

theorem handleConnect_state (cfg : Cfg) (s : Srv) (t : Eio) (nsp : Option Str) (data : Option J) :
    (handleConnect cfg s t nsp data).1 = s ∨
    ∃ rooms' k, isServed cfg (nsp.getD ['/']) = true ∧
      Rooms.connect s.rooms (nsp.getD ['/']) t (sidName s.nextSid) = some rooms' ∧
      ((handleConnect cfg s t nsp data).1 = { connected s rooms' with nConn := s.nConn + k } ∨
       ∃ p, (p = s.pending ∨ p = s.pending ++ [(nsp.getD ['/'], sidName s.nextSid)]) ∧
        (handleConnect cfg s t nsp data).1 = refusedSt s rooms' (nsp.getD ['/']) k p) := by
  rw [handleConnect_eq]
  cases hs : isServed cfg (nsp.getD ['/'])
  · exact Or.inl rfl
  rw [if_pos rfl]
  cases hc : Rooms.connect s.rooms (nsp.getD ['/']) t (sidName s.nextSid) with
  | none => exact Or.inl rfl
  | some rooms' =>
    refine Or.inr ⟨rooms', ?_⟩
    dsimp only
    cases s.environ.contains t
    · exact ⟨0, rfl, rfl, Or.inl rfl⟩
    cases resolve cfg.reg (nsp.getD ['/']) (.str "connect".toList)
        (.str (sidName s.nextSid) :: authArgs data) with
    | error e => exact ⟨0, rfl, rfl, Or.inl rfl⟩
    | ok r => exact ⟨_, rfl, rfl, connectEnd_state ..⟩

theorem Reach.handleConnect {s : Srv} (h : WF s) (cfg : Cfg) (t : Eio) (nsp : Option Str)
    (data : Option J) : Reach s (handleConnect cfg s t nsp data).1 := by
  rcases handleConnect_state cfg s t nsp data with h1 | ⟨rooms', k, _, hc, h1⟩
  · rw [h1]; exact Reach.refl s
  have hw : WF (connected s rooms') := (Prim.connect hc).wf h
  have hr := Reach.one h (Prim.connect hc)
  rcases h1 with h1 | ⟨p, hp, h1⟩ <;> rw [h1]
  · exact hr.tail hw (Prim.core rfl)
  · refine hr.tail hw (Prim.disc (s := connected s rooms')
      (hw.rooms.eioOf_iff.mpr ((mem_connect hc _).mpr (Or.inr (Or.inl rfl)))) ?_)
    rcases hp with rfl | rfl <;>
      simp [refusedSt, Server.mgrDisconnect, connected, Server.core, h.pendingNil]

/-- the ACK `_handle_event_internal` sends for return value `d` -/
def ackFor (s : Srv) (t : Eio) (ns : Ns) (id : Option Nat) (d : Data) : List Out :=
  match id with
  | some i => sendTo s (some t) (mkOut ACK ns (some i) d.pack)
  | none => []

/-- What `_handle_event_internal` does with an event, as a function of the handler's outcome `c`
    only: handler calls made, the outputs before the ACK, and the value that is acknowledged —
    the handler's return value, `None` for a class-based namespace without a method for the event. -/
def evRes (cfg : Cfg) (b : Bg) (c : EvRes) : Nat × List Out × Option Data :=
  match resolve cfg.reg b.ns b.first (.str b.sid :: b.rest) with
  | .error e => (0, [.raised e], none)
  | .ok r =>
    match r with
    | .fn slot a | .clsCall slot a =>
      match c with
      | .ret d => (1, [.invoke slot a], some d)
      | .raise => (1, [.invoke slot a, .raised .other], none)
    | .clsNoMethod => (0, [], some .none)
    | .notHandled => (0, [], none)

theorem runHandler_eq (cfg : Cfg) (s : Srv) (b : Bg) :
    runHandler cfg s b =
      ({ s with nEv := s.nEv + (evRes cfg b (cfg.script.onEvent s.nEv)).1 },
        (evRes cfg b (cfg.script.onEvent s.nEv)).2.1 ++
          match (evRes cfg b (cfg.script.onEvent s.nEv)).2.2 with
          | some d => ackFor s b.eio b.ns b.id d
          | none => []) := by
  unfold runHandler evRes
  cases resolve cfg.reg b.ns b.first (.str b.sid :: b.rest) with
  | error e => rfl
  | ok r => cases r <;> dsimp only <;> (try cases cfg.script.onEvent s.nEv) <;> rfl

theorem runHandler_core (cfg : Cfg) (s : Srv) (b : Bg) : core (runHandler cfg s b).1 = core s := by
  rw [runHandler_eq]; rfl

theorem mkOut_ns (type : Nat) (ns : Ns) (id : Option Nat) (data : List J) :
    (mkOut type ns id data).nsp = some ns := by
  unfold mkOut mkPacket
  dsimp only
  split
  · rename_i p h
    split at h
    · split at h
      · cases h; rfl
      · split at h <;> cases h; rfl
    · cases h; rfl
  · rfl

/-- Rule form of the outputs of the disconnect path: `P` of every packet of the namespace to the
    session's transport, of every exception, and of the invocation of what `disconnect` resolves to. -/
theorem endSession_all {P : Out → Prop} {cfg : Cfg} {s : Srv} {sid : Sid} {ns : Ns} {reason : Str}
    (hsend : ∀ t p, eioOf s.rooms ns sid = some t → p.nsp = some ns → P (.send t p))
    (hraise : ∀ e, P (.raised e))
    (hinv : ∀ r slot a, resolve cfg.reg ns (.str "disconnect".toList) [.str sid, .str reason] = .ok r →
      r.target = some (slot, a) → P (.invoke slot a)) (b : Bool) :
    ∀ o ∈ (endSession cfg s sid ns reason b).2.1, P o := by
  rw [endSession_eq]
  refine List.forall_mem_append.mpr ⟨?_, ?_⟩
  · cases b
    · exact fun _ h => nomatch h
    · cases ht : eioOf s.rooms ns sid with
      | none => exact fun _ h => nomatch h
      | some t => exact sendTo_forall (hsend t · ht) s rfl
  · rcases discRes_outs cfg ns sid reason (cfg.script.onDisconnect s.nDisc) with
      h | h | ⟨r, slot, a, hr, ht, h | h⟩ <;> rw [h]
    · exact fun _ ho => nomatch ho
    · exact List.forall_mem_singleton.mpr (hraise _)
    · exact List.forall_mem_singleton.mpr (hinv r slot a hr ht)
    · exact List.forall_mem_cons.mpr ⟨hinv r slot a hr ht, List.forall_mem_singleton.mpr (hraise _)⟩

theorem runHandler_all {P : Out → Prop} {cfg : Cfg} {b : Bg}
    (hsend : ∀ p, p.nsp = some b.ns → P (.send b.eio p)) (hraise : ∀ e, P (.raised e))
    (hinv : ∀ r slot a, resolve cfg.reg b.ns b.first (.str b.sid :: b.rest) = .ok r →
      r.target = some (slot, a) → P (.invoke slot a)) (s : Srv) :
    ∀ o ∈ (runHandler cfg s b).2, P o := by
  rw [runHandler_eq]
  refine List.forall_mem_append.mpr ⟨?_, ?_⟩
  · unfold evRes
    cases hr : resolve cfg.reg b.ns b.first (.str b.sid :: b.rest) with
    | error e => exact List.forall_mem_singleton.mpr (hraise e)
    | ok r =>
      cases r with
      | fn slot a | clsCall slot a =>
        have hi := hinv _ slot a hr rfl
        dsimp only
        cases cfg.script.onEvent s.nEv
        · exact List.forall_mem_singleton.mpr hi
        · exact List.forall_mem_cons.mpr ⟨hi, List.forall_mem_singleton.mpr (hraise _)⟩
      | clsNoMethod | notHandled => exact fun _ ho => nomatch ho
  · split
    · unfold ackFor
      split
      · exact sendTo_forall hsend s (mkOut_ns ..)
      · exact fun _ h => nomatch h
    · exact fun _ h => nomatch h

theorem handleEvent_core (cfg : Cfg) (s : Srv) (t : Eio) (nsp : Option Str) (id : Option Nat)
    (data : Option J) : core (handleEvent cfg s t nsp id data).1 = core s := by
  unfold handleEvent
  dsimp only
  split
  · rfl
  · split
    · rfl
    · split
      · rfl
      · split
        · rfl
        · exact runHandler_core _ _ _

/-- `callbacks[sid].pop(id)` -/
def popCb (s : Srv) (sid : Sid) (i : Nat) : Srv :=
  { s with cbs := s.cbs.filter (fun c => !(c.1 = sid ∧ c.2.1 = i)) }

theorem popCb_rooms (s : Srv) (sid : Sid) (i : Nat) : (popCb s sid i).rooms = s.rooms := rfl

theorem handleAck_cases (s : Srv) (t : Eio) (nsp : Option Str) (id : Option Nat) (data : Option J) :
    handleAck s t nsp id data = (s, []) ∨
    ∃ sid i tok, sidOf s.rooms (nsp.getD ['/']) t = some sid ∧ id = some i ∧ (sid, i, tok) ∈ s.cbs ∧
      handleAck s t nsp id data =
        match starArgs data, tok with
        | .error e, _ => (popCb s sid i, [.raised e])
        | .ok args, .user n => (popCb s sid i, [.callback n args])
        | .ok args, .call n => ({ popCb s sid i with callDone := s.callDone ++ [(n, args)] }, []) := by
  unfold handleAck
  dsimp only
  split
  · rename_i sid i hs
    split
    · exact Or.inl rfl
    · rename_i a b tok hf
      have hp := List.find?_some hf
      simp only [decide_eq_true_eq] at hp
      obtain ⟨rfl, rfl⟩ := hp
      refine Or.inr ⟨_, _, tok, hs, rfl, List.mem_of_find?_eq_some hf, ?_⟩
      cases starArgs data <;> cases tok <;> rfl
  · exact Or.inl rfl

theorem handleAck_state (s : Srv) (t : Eio) (nsp : Option Str) (id : Option Nat) (data : Option J) :
    (handleAck s t nsp id data).1 = s ∨
    ∃ sid i tok, sidOf s.rooms (nsp.getD ['/']) t = some sid ∧ id = some i ∧
      (sid, i, tok) ∈ s.cbs ∧
      ((handleAck s t nsp id data).1 = popCb s sid i ∨
       ∃ n args, tok = .call n ∧ starArgs data = .ok args ∧
        (handleAck s t nsp id data).1 =
          { popCb s sid i with callDone := s.callDone ++ [(n, args)] }) := by
  rcases handleAck_cases s t nsp id data with h | ⟨sid, i, tok, hs, hi, hm, h⟩
  · exact Or.inl (by rw [h])
  · refine Or.inr ⟨sid, i, tok, hs, hi, hm, ?_⟩
    rw [h]
    cases ha : starArgs data with
    | error e => exact Or.inl rfl
    | ok args =>
      cases tok with
      | user n => exact Or.inl rfl
      | call n => exact Or.inr ⟨n, args, rfl, rfl, rfl⟩

theorem Reach.handleAck {s : Srv} (h : WF s) (t : Eio) (nsp : Option Str) (id : Option Nat)
    (data : Option J) : Reach s (handleAck s t nsp id data).1 := by
  rcases handleAck_state s t nsp id data with h1 | ⟨sid, i, tok, _, _, hm, h1 | ⟨n, args, ht, _, h1⟩⟩
  · rw [h1]; exact Reach.refl s
  · rw [h1]; exact Reach.one h (Prim.cbsFilter _)
  · rw [h1]; subst ht
    have hp : Prim s { s with callDone := s.callDone ++ [(n, args)] } := Prim.callDone args hm
    exact (Reach.one h hp).tail (hp.wf h) (Prim.cbsFilter _)

theorem Reach.handleFrame {s : Srv} (h : WF s) (dec : Str → Except Err (Packet × Nat)) (cfg : Cfg)
    (t : Eio) (v : J) : Reach s (handleFrame dec cfg s t v).1 := by
  have hdrop : Prim s (dropBin s t) := Prim.binbuf (h.toWF0.filterBin _).binNodup
  refine frame_cases (motive := fun r => Reach s r.1) (fun _ => .refl s)
    (fun _ _ _ => Reach.one h (Prim.binbuf (by rw [setBin_keys]; exact h.binNodup))) ?_ ?_
    (fun _ _ => Reach.handleConnect h ..) (fun _ => Reach.handleDisconnect h ..)
    (fun _ _ hn => Reach.one h (Prim.binbuf (h.toWF0.pushBin hn _).binNodup))
  · intro _ _ _ _ hc
    cases hc with
    | text => exact Reach.one h (Prim.core (handleEvent_core ..))
    | binary => exact (Reach.one h hdrop).trans (Reach.one (hdrop.wf h) (Prim.core (handleEvent_core ..)))
  · intro _ _ _ _ hc
    cases hc with
    | text => exact Reach.handleAck h ..
    | binary => exact (Reach.one h hdrop).trans (Reach.handleAck (hdrop.wf h) ..)

theorem handleLost_eq (cfg : Cfg) (s : Srv) (t : Eio) (reason : Str) :
    handleLost cfg s t reason =
      if !s.socks.contains t then (s, [])
      else (dropTransport (handleLost.go cfg t reason s [] (namespacesOf s.rooms)).1 t,
            (handleLost.go cfg t reason s [] (namespacesOf s.rooms)).2) := by
  unfold handleLost
  split <;> rfl

theorem lostGo_outs_eq (cfg : Cfg) (t : Eio) (reason : Str) (s : Srv) (outs : List Out)
    (nss : List Ns) :
    handleLost.go cfg t reason s outs nss =
      ((handleLost.go cfg t reason s [] nss).1, outs ++ (handleLost.go cfg t reason s [] nss).2) := by
  induction nss generalizing s outs with
  | nil => simp [handleLost.go]
  | cons ns rest ih =>
    unfold handleLost.go
    rw [ih, ih (outs := [] ++ _)]
    simp [List.append_assoc]

/-- The loop of `_handle_eio_disconnect` is `_handle_disconnect` once per namespace, each time from
    a well-formed state: a relation between start state, end state and outputs that is reflexive,
    composes along appended outputs and holds of each such step holds of the loop. -/
theorem lostGo_rel {R : Srv → Srv → List Out → Prop} {cfg : Cfg} {t : Eio} {reason : Str}
    (refl : ∀ s, R s s []) (trans : ∀ {a b c o₁ o₂}, R a b o₁ → R b c o₂ → R a c (o₁ ++ o₂))
    (step : ∀ s ns, WF s →
      R s (handleDisconnect cfg s t ns reason).1 (handleDisconnect cfg s t ns reason).2.1)
    {s : Srv} (h : WF s) (nss : List Ns) :
    R s (handleLost.go cfg t reason s [] nss).1 (handleLost.go cfg t reason s [] nss).2 := by
  induction nss generalizing s with
  | nil => exact refl s
  | cons ns rest ih =>
    unfold handleLost.go
    rw [lostGo_outs_eq, List.nil_append]
    exact trans (step s ns h) (ih (h.handleDisconnect cfg t ns reason))

theorem Reach.lostGo {s : Srv} (h : WF s) (cfg : Cfg) (t : Eio) (reason : Str) (nss : List Ns) :
    Reach s (handleLost.go cfg t reason s [] nss).1 :=
  lostGo_rel (R := fun a b _ => Reach a b) .refl .trans (fun _ ns h => .handleDisconnect h cfg t ns reason)
    h nss

theorem WF.lostGo {s : Srv} (h : WF s) (cfg : Cfg) (t : Eio) (reason : Str) (nss : List Ns) :
    WF (handleLost.go cfg t reason s [] nss).1 :=
  (Reach.lostGo h cfg t reason nss).wf h

theorem Reach.handleLost {s : Srv} (h : WF s) (cfg : Cfg) (t : Eio) (reason : Str) :
    Reach s (handleLost cfg s t reason).1 := by
  rw [handleLost_eq]
  split
  · exact Reach.refl s
  · exact (Reach.lostGo h cfg t reason _).tail (h.lostGo cfg t reason _) (Prim.drop t)

/-- one iteration of the loop of `Manager.emit` with a callback -/
def emitOne (ns : Ns) (payload : List J) (tok : CbTok) (acc : Srv × List Out) (r : Sid × Eio) :
    Srv × List Out :=
  (addCb acc.1 r.1 tok,
    acc.2 ++ sendTo (addCb acc.1 r.1 tok) (some r.2)
      (mkOut EVENT ns (some (nextAckId acc.1 r.1)) payload))

theorem emit_cb_eq (s : Srv) (ev : Str) (d : Data) (ns : Ns) (to : Target) (skip : List Sid)
    (tok : CbTok) :
    emit s ev d ns to skip (some tok) =
      if !hasNs s.rooms ns then (s, [])
      else (recipients s.rooms ns to skip).foldl (emitOne ns (J.str ev :: d.pack) tok) (s, []) := rfl

theorem emit_nocb_state (s : Srv) (ev : Str) (d : Data) (ns : Ns) (to : Target) (skip : List Sid) :
    (emit s ev d ns to skip none).1 = s := by
  unfold emit; split <;> rfl

theorem emit_state (s : Srv) (ev : Str) (d : Data) (ns : Ns) (to : Target) (skip : List Sid)
    (cb : Option CbTok) :
    (emit s ev d ns to skip cb).1 =
      { s with cbs := (emit s ev d ns to skip cb).1.cbs, ctr := (emit s ev d ns to skip cb).1.ctr } := by
  have fold : ∀ (tok : CbTok) (payload : List J) (rs : List (Sid × Eio)) (acc : Srv × List Out),
      (rs.foldl (emitOne ns payload tok) acc).1 =
        { acc.1 with cbs := (rs.foldl (emitOne ns payload tok) acc).1.cbs,
                     ctr := (rs.foldl (emitOne ns payload tok) acc).1.ctr } := by
    intro tok payload rs
    induction rs with
    | nil => exact fun _ => rfl
    | cons r rs ih => exact fun acc => (ih (emitOne ns payload tok acc r)).trans rfl
  cases cb with
  | none => rw [emit_nocb_state]
  | some tok =>
    rw [emit_cb_eq]
    split
    · rfl
    · exact fold ..

theorem addCb_rooms (s : Srv) (sid : Sid) (tok : CbTok) : (addCb s sid tok).rooms = s.rooms := rfl

theorem recipients_live {r : Rooms.St} (h : Inv r) {ns : Ns} {to : Target} {skip : List Sid}
    {p : Sid × Eio} (hp : p ∈ recipients r ns to skip) : sidLive r p.1 := by
  unfold recipients at hp
  obtain ⟨room, he⟩ := mem_participants (List.mem_filter.mp hp).1
  exact sidLive_of_mem h he

theorem Reach.emit {s : Srv} (h : WF s) (ev : Str) (d : Data) (ns : Ns) (to : Target)
    (skip : List Sid) (cb : Option CbTok) (ht : ∀ n, cb = some (.call n) → n < s.nCall) :
    Reach s (emit s ev d ns to skip cb).1 := by
  cases cb with
  | none => rw [emit_nocb_state]; exact Reach.refl s
  | some tok =>
    rw [emit_cb_eq]
    split
    · exact Reach.refl s
    · rename_i hns
      clear hns
      have hl : ∀ r ∈ recipients s.rooms ns to skip, sidLive s.rooms r.1 :=
        fun r hr => recipients_live h.rooms hr
      generalize recipients s.rooms ns to skip = rs at hl
      generalize ([] : List Out) = o
      induction rs generalizing s o with
      | nil => exact Reach.refl s
      | cons r rs ih =>
        have hp : Prim s (addCb s r.1 tok) :=
          Prim.addCb tok (hl r List.mem_cons_self) (fun n hn => ht n (by rw [hn]))
        exact (Reach.one h hp).trans (ih (s := addCb s r.1 tok) (hp.wf h) ht
          (fun r' hr' => hl r' (List.mem_cons_of_mem _ hr')) _)

theorem Reach.drain {s : Srv} (h : WF s) (cfg : Cfg) (outs : List Out) (bs : List Bg) :
    Reach s (step.drain cfg s outs bs).1 := by
  induction bs generalizing s outs with
  | nil => exact Reach.refl s
  | cons b rest ih =>
    unfold step.drain
    exact (Reach.one h (Prim.core (runHandler_core cfg s b))).trans
      (ih (h.of_core (runHandler_core cfg s b)) _)

/-- the first half of `call()`: the emit with the internal callback -/
def callStart (s : Srv) (ev : Str) (d : Data) (ns : Ns) (sid : Sid) : Srv × List Out :=
  emit { s with nCall := s.nCall + 1 } ev d ns (.one sid) [] (some (.call s.nCall))

/-- what `call()` returns after the wait -/
def callOutcome (s : Srv) (n : Nat) : Out :=
  match s.callDone.find? (fun c => c.1 = n) with
  | some c => .result (callResult c.2)
  | none => .timeout

theorem step_call (dec : Str → Except Err (Packet × Nat)) (cfg : Cfg) (s : Srv) (ev : Str)
    (d : Data) (ns : Ns) (sid : Sid) (during : List Input) :
    step dec cfg s (.call ev d ns sid during) =
      if !cfg.asyncHandlers then (s, [.raised .other])
      else
        ((run dec cfg (callStart s ev d ns sid).1 during).1,
          (callStart s ev d ns sid).2 ++ (run dec cfg (callStart s ev d ns sid).1 during).2 ++
            [callOutcome (run dec cfg (callStart s ev d ns sid).1 during).1 s.nCall]) := by
  rw [step]
  split
  · rfl
  · simp only [callStart, callOutcome]
    split <;> rename_i h <;> simp only [h]

theorem Reach.callStart {s : Srv} (h : WF s) (ev : Str) (d : Data) (ns : Ns) (sid : Sid) :
    Reach s (callStart s ev d ns sid).1 := by
  have hp : Prim s { s with nCall := s.nCall + 1 } := Prim.bumpCall
  refine (Reach.one h hp).trans (Reach.emit (hp.wf h) _ _ _ _ _ _ ?_)
  intro n hn
  cases hn
  exact Nat.lt_succ_self _

theorem WF.callStart {s : Srv} (h : WF s) (ev : Str) (d : Data) (ns : Ns) (sid : Sid) :
    WF (callStart s ev d ns sid).1 :=
  (Reach.callStart h ev d ns sid).wf h

theorem run_nil (dec : Str → Except Err (Packet × Nat)) (cfg : Cfg) (s : Srv) :
    run dec cfg s [] = (s, []) := by rw [run]

theorem run_cons (dec : Str → Except Err (Packet × Nat)) (cfg : Cfg) (s : Srv) (i : Input)
    (is : List Input) :
    run dec cfg s (i :: is) =
      ((run dec cfg (step dec cfg s i).1 is).1,
        (step dec cfg s i).2 ++ (run dec cfg (step dec cfg s i).1 is).2) := by rw [run]

/-- Induction over inputs and histories together (`call()` contains a history).  Of the cases of
    `step.mutual_induct` only those of `call` and `run` carry something: 5 — `call` without
    `async_handlers`; 6 and 7 — `call` whose wait ends with a result / a timeout (both have the
    induction hypothesis for `during`); 22 and 23 — `run` on `[]` and on `i :: is`.  All others are
    inputs that are not a `call`. -/
theorem step_run_induct (dec : Str → Except Err (Packet × Nat)) (cfg : Cfg)
    (P : Srv → Input → Prop) (Q : Srv → List Input → Prop)
    (hbase : ∀ s i, (∀ ev d ns sid during, i ≠ .call ev d ns sid during) → P s i)
    (hcall : ∀ s ev d ns sid during,
      (cfg.asyncHandlers = true → Q (callStart s ev d ns sid).1 during) →
      P s (.call ev d ns sid during))
    (hnil : ∀ s, Q s [])
    (hcons : ∀ s i is, P s i → Q (step dec cfg s i).1 is → Q s (i :: is)) :
    (∀ s i, P s i) ∧ (∀ s is, Q s is) := by
  apply step.mutual_induct dec cfg (motive_1 := P) (motive_2 := Q)
  case case6 =>
    intro s ev d ns sid during _ n s1 o1 he s2 o2 _ _ _ _ ih
    have : (callStart s ev d ns sid).1 = s1 := congrArg Prod.fst he
    exact hcall _ _ _ _ _ _ fun _ => this ▸ ih
  case case7 =>
    intro s ev d ns sid during _ n s1 o1 he s2 o2 _ _ ih
    have : (callStart s ev d ns sid).1 = s1 := congrArg Prod.fst he
    exact hcall _ _ _ _ _ _ fun _ => this ▸ ih
  case case5 =>
    intro s ev d ns sid during hc
    apply hcall
    intro ha; rw [ha] at hc; cases hc
  case case22 => exact hnil
  case case23 => intro s i is; exact hcons s i is
  all_goals (intros; apply hbase; intros; simp)

theorem Reach.step_run (dec : Str → Except Err (Packet × Nat)) (cfg : Cfg) :
    (∀ (s : Srv) (i : Input), WF s → Reach s (step dec cfg s i).1) ∧
    (∀ (s : Srv) (is : List Input), WF s → Reach s (run dec cfg s is).1) := by
  refine step_run_induct dec cfg _ _ ?_ ?_ ?_ ?_
  · intro s i hi h
    have hsess : ∀ {t sid ns} v, sessSock s sid ns = some t → Reach s (sessSet s t ns v) :=
      fun _ ht => Reach.one h (Prim.sess _ _ (sessSock_some ht).2)
    cases i with
    | eioConnect t => rw [step]; exact Reach.one h (Prim.eioConnect t)
    | frame t v => rw [step]; exact Reach.handleFrame h dec cfg t v
    | eioLost t r => rw [step]; exact Reach.handleLost h cfg t r
    | emit ev d ns to skip cb =>
      rw [step]
      refine Reach.emit h _ _ _ _ _ _ ?_
      intro n hn
      cases cb <;> cases hn
    | call ev d ns sid during => exact absurd rfl (hi ev d ns sid during)
    | apiDisconnect sid ns => rw [step]; exact Reach.apiDisconnect h cfg sid ns
    | enterRoom sid ns room =>
      rw [step]
      split
      · rename_i r he; exact Reach.one h (.roomsStep (.enter h.rooms he))
      · exact Reach.refl s
    | leaveRoom sid ns room => rw [step]; exact Reach.one h (.roomsStep (.leave h.rooms ns sid room))
    | closeRoom ns room => rw [step]; exact Reach.one h (Prim.closeRoom h ns room)
    | rooms sid ns => rw [step]; exact Reach.refl s
    | getSession sid ns =>
      rw [step]
      split
      · exact Reach.refl s
      · rename_i t ht
        split
        · exact Reach.refl s
        · exact hsess _ ht
    | saveSession _ _ _ | sessionBlock _ _ _ _ =>
      rw [step]
      split
      · exact Reach.refl s
      · rename_i t ht; exact hsess _ ht
    | settle =>
      rw [step]
      have hp : Prim s { s with bg := [] } := Prim.core rfl
      exact (Reach.one h hp).trans (Reach.drain (hp.wf h) ..)
  · intro s ev d ns sid during ih h
    rw [step_call]
    split
    · exact Reach.refl s
    · rename_i hc
      exact (Reach.callStart h ev d ns sid).trans (ih (by simpa using hc) (h.callStart ev d ns sid))
  · intro s h; rw [run_nil]; exact Reach.refl s
  · intro s i is h1 h2 h
    rw [run_cons]; exact (h1 h).trans (h2 ((h1 h).wf h))

theorem Reach.step {s : Srv} (h : WF s) (dec : Str → Except Err (Packet × Nat)) (cfg : Cfg)
    (i : Input) : Reach s (step dec cfg s i).1 := (Reach.step_run dec cfg).1 s i h

theorem Reach.run {s : Srv} (h : WF s) (dec : Str → Except Err (Packet × Nat)) (cfg : Cfg)
    (is : List Input) : Reach s (run dec cfg s is).1 := (Reach.step_run dec cfg).2 s is h

theorem WF.step {s : Srv} (h : WF s) (dec : Str → Except Err (Packet × Nat)) (cfg : Cfg)
    (i : Input) : WF (step dec cfg s i).1 := (Reach.step h dec cfg i).wf h

theorem WF.run {s : Srv} (h : WF s) (dec : Str → Except Err (Packet × Nat)) (cfg : Cfg)
    (is : List Input) : WF (run dec cfg s is).1 := (Reach.run h dec cfg is).wf h

end Sio.Server
