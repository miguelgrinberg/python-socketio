/-
  K10 on K4 — the reporting wrappers are transparent (property C18, last clause).

  `appPart a s` removes the admin namespace `a` from the server state.  Every handler of the server
  core, run for a namespace other than `a`, commutes with `appPart a` and produces the same
  outputs whether the registry is the application's or the instrumented one (`Commutes`: the
  `_app` lemmas); run for
  `a` itself it leaves `appPart a s` alone up to the positions of the id generator and of the
  script, and produces nothing an application client or the application can see (`Hidden`:
  `handleConnect_bump`, `handleDisconnect_admin`, `handleEvent_admin`).
  From these: one input on the instrumented server simulates the same input on the plain server
  started in `appPart a s` (`stepWith_sim`), and histories follow by induction over the relation
  `Rel` between the two states (`trace_sim`).

  One walk over all handlers (`step_run_tame`) shows, for any predicate `p` on outputs that is
  false of whatever the registry resolves to (`Unseen`), that no output satisfies `p` and that
  with synchronous handlers nothing is queued.  Read-only / production mode (last sections): no
  output of any step of any history is the invocation of a mutator (the walk with
  `p = mutatorCalled a`: `step_run_noMut`, `stepWith_noMut`, `noMutator_ro`), so `quiet` is its
  second half (`quiet_ro`), which holds outright with synchronous handlers (`settleQuiet_sync`);
  one admin request is inert from any state (`stepWith_adminEvent_ro`, `runHandler_admin_ro`); the
  instrumented run simulates the plain run on the history without the admin clients' EVENT
  frames (`pruned_sim`).
-/
import Sio.Lemmas.Admin
import Sio.Lemmas.ServerView
namespace Sio.Admin
open Sio.Server Sio.Rooms

def appR (a : Ns) (r : Rooms.St) : Rooms.St := r.filter (fun e => e.ns != a)

theorem mem_appR {a : Ns} {r : Rooms.St} {e : Entry} : e ∈ appR a r ↔ e ∈ r ∧ e.ns ≠ a := by
  simp [appR, List.mem_filter]

section app
variable {a ns : Ns} (hne : ns ≠ a)
include hne

theorem sidOf_app (r : Rooms.St) (t : Eio) : sidOf (appR a r) ns t = sidOf r ns t := by
  unfold sidOf appR
  rw [find_filter_of_imp]
  intro e _ he
  simp only [decide_eq_true_eq] at he
  simp [he.1, hne]

theorem eioOf_app (r : Rooms.St) (sid : Sid) : eioOf (appR a r) ns sid = eioOf r ns sid := by
  unfold eioOf appR
  rw [find_filter_of_imp]
  intro e _ he
  simp only [decide_eq_true_eq] at he
  simp [he.1, hne]

theorem hasNs_app (r : Rooms.St) : hasNs (appR a r) ns = hasNs r ns := by
  unfold hasNs appR
  rw [List.any_filter]
  congr 1; funext e
  by_cases h : e.ns = ns <;> simp [h, hne]

theorem roomMembers_app (r : Rooms.St) (room : Option Room) :
    roomMembers (appR a r) ns room = roomMembers r ns room := by
  unfold roomMembers appR
  rw [List.filter_filter]
  congr 1
  apply List.filter_congr
  intro e _
  by_cases h : e.ns = ns <;> simp [h, hne]

theorem recipients_app (r : Rooms.St) (to : Target) (skip : List Sid) :
    recipients (appR a r) ns to skip = recipients r ns to skip := by
  cases to <;> simp only [recipients, participants, roomMembers_app hne]

theorem getRooms_app (r : Rooms.St) (sid : Sid) : getRooms (appR a r) ns sid = getRooms r ns sid := by
  unfold getRooms appR
  rw [List.filterMap_filter]
  congr 1; funext e
  by_cases h : e.ns = ns <;> simp [h, hne]

theorem add_app (r : Rooms.St) {e : Entry} (he : e.ns = ns) :
    appR a (Rooms.add r e) = Rooms.add (appR a r) e := by
  have hea : e.ns ≠ a := he ▸ hne
  have hm : e ∈ appR a r ↔ e ∈ r := by rw [mem_appR]; simp [hea]
  unfold Rooms.add
  by_cases h : e ∈ r
  · rw [if_pos h, if_pos (hm.mpr h)]
  · rw [if_neg h, if_neg (mt hm.mp h)]
    simp [appR, List.filter_append, hea]

theorem connect_app (r : Rooms.St) (t : Eio) (sid : Sid) :
    Rooms.connect (appR a r) ns t sid = (Rooms.connect r ns t sid).map (appR a) := by
  unfold Rooms.connect
  rw [sidOf_app hne]
  split
  · rfl
  · simp only [Option.map_some]
    rw [add_app hne _ rfl, add_app hne _ rfl]

theorem enter_app (r : Rooms.St) (sid : Sid) (room : Room) :
    Rooms.enter (appR a r) ns sid room = (Rooms.enter r ns sid room).map (appR a) := by
  unfold Rooms.enter
  rw [hasNs_app hne, eioOf_app hne]
  split
  · rfl
  · split
    · rfl
    · simp only [Except.map]
      rw [add_app hne _ rfl]

end app

theorem add_admin {a : Ns} (r : Rooms.St) {e : Entry} (he : e.ns = a) :
    appR a (Rooms.add r e) = appR a r := by
  unfold Rooms.add
  split
  · rfl
  · simp [appR, List.filter_append, he]

theorem connect_admin {a : Ns} {r r' : Rooms.St} {t : Eio} {sid : Sid}
    (h : Rooms.connect r a t sid = some r') : appR a r' = appR a r := by
  unfold Rooms.connect at h
  split at h
  · cases h
  · cases h
    rw [add_admin (a := a) _ rfl, add_admin (a := a) _ rfl]

theorem sidOf_appR_admin (a : Ns) (r : Rooms.St) (t : Eio) : sidOf (appR a r) a t = none := by
  rw [sidOf_none_iff]
  intro sid he
  exact (mem_appR.mp he).2 rfl

/-- `Rooms.disconnect`, `Rooms.leave` and `Rooms.closeRoom` are filters: they commute with `appR`
    for every namespace -/
theorem appR_filter (a : Ns) (r : Rooms.St) (p : Entry → Bool) :
    appR a (r.filter p) = (appR a r).filter p := by
  simp only [appR, List.filter_filter, Bool.and_comm]

theorem disconnect_admin (a : Ns) (r : Rooms.St) (sid : Sid) :
    appR a (Rooms.disconnect r a sid) = appR a r := by
  simp only [appR, Rooms.disconnect, List.filter_filter]
  apply List.filter_congr
  intro e _
  by_cases h : e.ns = a <;> simp [h]

theorem eraseDups_filter_ne (a : Ns) (l : List Ns) :
    (l.filter (· != a)).eraseDups = l.eraseDups.filter (· != a) := by
  generalize hn : l.length = n
  induction n using Nat.strongRecOn generalizing l with
  | _ n ih =>
  cases l with
  | nil => simp
  | cons x l =>
    have hlen : (l.filter fun b => !b == x).length < n := by
      subst hn
      exact Nat.lt_succ_of_le (List.length_filter_le _ _)
    have ih := ih _ hlen (l.filter fun b => !b == x) rfl
    rw [List.eraseDups_cons]
    by_cases hx : x = a
    · subst hx
      simp only [List.filter_cons, bne_self_eq_false, Bool.false_eq_true, if_false]
      rw [← ih, List.filter_filter]
      congr 1
      apply List.filter_congr; intro y _
      by_cases hy : y = x <;> simp [hy]
    · have hx' : (x != a) = true := by simp [hx]
      simp only [List.filter_cons, hx', if_true]
      rw [List.eraseDups_cons, ← ih, List.filter_filter, List.filter_filter]
      congr 2
      apply List.filter_congr; intro y _
      exact Bool.and_comm _ _

theorem namespacesOf_app (a : Ns) (r : Rooms.St) :
    namespacesOf (appR a r) = (namespacesOf r).filter (· != a) := by
  unfold namespacesOf appR
  rw [← eraseDups_filter_ne, List.filter_map]
  rfl

@[simp] theorem appPart_rooms (a : Ns) (s : Srv) : (appPart a s).rooms = appR a s.rooms := rfl
@[simp] theorem appPart_bg (a : Ns) (s : Srv) : (appPart a s).bg = s.bg.filter (fun b => b.ns != a) := rfl
@[simp] theorem appPart_pending (a : Ns) (s : Srv) : (appPart a s).pending = s.pending := rfl
@[simp] theorem appPart_cbs (a : Ns) (s : Srv) : (appPart a s).cbs = s.cbs := rfl
@[simp] theorem appPart_ctr (a : Ns) (s : Srv) : (appPart a s).ctr = s.ctr := rfl
@[simp] theorem appPart_environ (a : Ns) (s : Srv) : (appPart a s).environ = s.environ := rfl
@[simp] theorem appPart_binbuf (a : Ns) (s : Srv) : (appPart a s).binbuf = s.binbuf := rfl
@[simp] theorem appPart_sess (a : Ns) (s : Srv) : (appPart a s).sess = s.sess := rfl
@[simp] theorem appPart_socks (a : Ns) (s : Srv) : (appPart a s).socks = s.socks := rfl
@[simp] theorem appPart_nextSid (a : Ns) (s : Srv) : (appPart a s).nextSid = s.nextSid := rfl
@[simp] theorem appPart_nConn (a : Ns) (s : Srv) : (appPart a s).nConn = s.nConn := rfl
@[simp] theorem appPart_nEv (a : Ns) (s : Srv) : (appPart a s).nEv = s.nEv := rfl
@[simp] theorem appPart_nDisc (a : Ns) (s : Srv) : (appPart a s).nDisc = s.nDisc := rfl
@[simp] theorem appPart_nCall (a : Ns) (s : Srv) : (appPart a s).nCall = s.nCall := rfl
@[simp] theorem appPart_callDone (a : Ns) (s : Srv) : (appPart a s).callDone = s.callDone := rfl

theorem appPart_congr {a : Ns} {s s' : Srv} (h1 : appR a s.rooms = appR a s'.rooms)
    (h2 : s.bg.filter (fun b => b.ns != a) = s'.bg.filter (fun b => b.ns != a))
    (h3 : { s with rooms := [], bg := [] } = { s' with rooms := [], bg := [] }) :
    appPart a s = appPart a s' := by
  cases s; cases s'
  simp only [appPart, Srv.mk.injEq] at *
  simp only [appR] at h1
  simp [h1, h2, h3]

theorem sendTo_appPart (a : Ns) (s : Srv) (t : Option Eio) (p : Packet) :
    sendTo (appPart a s) t p = sendTo s t p := rfl

theorem isConnected_app {a ns : Ns} (hne : ns ≠ a) (s : Srv) (sid : Sid) :
    isConnected (appPart a s) sid ns = isConnected s sid ns := by
  simp only [isConnected, appPart_pending, appPart_rooms, eioOf_app hne]

theorem mgrDisconnect_appPart (a : Ns) (s : Srv) (sid : Sid) (ns : Ns) :
    appPart a (mgrDisconnect s sid ns) = mgrDisconnect (appPart a s) sid ns := by
  simp only [appPart, mgrDisconnect]
  congr 1
  exact appR_filter a s.rooms _

section reg
variable {a ns : Ns} (hne : ns ≠ a)
include hne

theorem isServed_app (c : Cfg) (mode : Str) (ro : Bool) :
    isServed (Instrumented.cfg c a mode ro) ns = isServed c ns := by
  simp only [isServed, Instrumented.cfg, instrumentReg, beq_eq_false_iff_ne.mpr hne, Bool.false_or]

variable (ha : a ≠ star)
include ha

theorem resolve_app (app : Registry) (mode : Str) (ro : Bool) (ev : J) (args : List J) :
    resolve (instrumentReg app a mode ro) ns ev args = resolve app ns ev args := by
  simp only [resolve, instrumentReg, beq_eq_false_iff_ne.mpr hne, beq_eq_false_iff_ne.mpr ha.symm,
    Bool.false_and, Bool.false_or]
  rfl

end reg

@[simp] theorem icfg_reg (c : Cfg) (a : Ns) (mode : Str) (ro : Bool) :
    (Instrumented.cfg c a mode ro).reg = instrumentReg c.reg a mode ro := rfl
@[simp] theorem icfg_script (c : Cfg) (a : Ns) (mode : Str) (ro : Bool) :
    (Instrumented.cfg c a mode ro).script = c.script := rfl
@[simp] theorem icfg_always (c : Cfg) (a : Ns) (mode : Str) (ro : Bool) :
    (Instrumented.cfg c a mode ro).alwaysConnect = c.alwaysConnect := rfl
@[simp] theorem icfg_async (c : Cfg) (a : Ns) (mode : Str) (ro : Bool) :
    (Instrumented.cfg c a mode ro).asyncHandlers = c.asyncHandlers := rfl
@[simp] theorem icfg_served (c : Cfg) (a : Ns) (mode : Str) (ro : Bool) :
    (Instrumented.cfg c a mode ro).served = c.served := rfl

theorem appPart_set (a : Ns) (s : Srv) (r : Rooms.St) (n k : Nat) (p : List (Ns × Sid)) :
    appPart a { s with rooms := r, nextSid := n, nConn := k, pending := p } =
      { appPart a s with rooms := appR a r, nextSid := n, nConn := k, pending := p } := rfl

/-- `y`, computed from the application part of a state, is the application part of `x`, computed
    from the whole state, with the same outputs -/
abbrev Commutes {β : Type} (a : Ns) (x y : Srv × β) : Prop := y = (appPart a x.1, x.2)

theorem connectEnd_appPart (a : Ns) (al : Bool) (s : Srv) (t : Eio) (ns : Ns) (sid : Sid)
    (o : List Out) (oc : Option (Bool × J)) :
    Commutes a (connectEnd al s t ns sid o oc)
      (connectEnd al (appPart a s) t ns sid o oc) := by
  rcases oc with _ | ⟨_ | _, why⟩
  · rfl
  · cases al
    · exact congrArg (·, _) (mgrDisconnect_appPart a s sid ns).symm
    · exact congrArg (·, _) (mgrDisconnect_appPart a { s with pending := s.pending ++ [(ns, sid)] } sid ns).symm
  · rfl

section commute
variable {a : Ns} (ha : a ≠ star) {c : Cfg} {mode : Str} {ro : Bool} {s : Srv}
include ha

theorem handleConnect_app (t : Eio) (nsp : Option Str) (d : Option J) (hne : nsp.getD ['/'] ≠ a) :
    Commutes a (handleConnect (Instrumented.cfg c a mode ro) s t nsp d)
      (handleConnect c (appPart a s) t nsp d) := by
  rw [handleConnect_eq, handleConnect_eq, appPart_rooms, appPart_nextSid, appPart_environ,
    appPart_nConn, connect_app hne, isServed_app hne, icfg_reg, icfg_always, icfg_script,
    resolve_app hne ha]
  cases isServed c (nsp.getD ['/'])
  · rfl
  cases Rooms.connect s.rooms (nsp.getD ['/']) t (sidName s.nextSid) with
  | none => rfl
  | some r' =>
    cases s.environ.contains t
    · rfl
    cases resolve c.reg (nsp.getD ['/']) (J.str "connect".toList)
        (J.str (sidName s.nextSid) :: authArgs d) with
    | error e => rfl
    | ok r =>
      exact connectEnd_appPart a _ { connected s r' with
        nConn := s.nConn + (connectCall (c.script.onConnect s.nConn) r).2.1 } ..

theorem endSession_app (sid : Sid) {ns : Ns} (hne : ns ≠ a) (reason : Str) (b : Bool) :
    Commutes a (endSession (Instrumented.cfg c a mode ro) s sid ns reason b)
      (endSession c (appPart a s) sid ns reason b) := by
  have hd : discRes (Instrumented.cfg c a mode ro) ns sid reason = discRes c ns sid reason := by
    funext x; unfold discRes; rw [icfg_reg, resolve_app hne ha]
  rw [endSession_eq, endSession_eq, hd, appPart_rooms, eioOf_app hne]
  exact congrArg (·, _) (mgrDisconnect_appPart a
    { s with pending := s.pending ++ [(ns, sid)], nDisc := s.nDisc + _ } sid ns).symm

theorem handleDisconnect_app (t : Eio) {ns : Ns} (hne : ns ≠ a) (reason : Str) :
    Commutes a (handleDisconnect (Instrumented.cfg c a mode ro) s t ns reason)
      (handleDisconnect c (appPart a s) t ns reason) := by
  unfold handleDisconnect
  rw [appPart_rooms, sidOf_app hne]
  split
  · rfl
  · rename_i sid _
    rw [isConnected_app hne]
    split
    · rfl
    · exact endSession_app ha sid hne reason false

theorem apiDisconnect_app (sid : Sid) {ns : Ns} (hne : ns ≠ a) :
    Commutes a (apiDisconnect (Instrumented.cfg c a mode ro) s sid ns)
      (apiDisconnect c (appPart a s) sid ns) := by
  unfold apiDisconnect
  rw [isConnected_app hne]
  split
  · rfl
  · rw [endSession_app ha sid hne]

theorem runHandler_app (b : Bg) (hne : b.ns ≠ a) :
    Commutes a (runHandler (Instrumented.cfg c a mode ro) s b)
      (runHandler c (appPart a s) b) := by
  have he : evRes (Instrumented.cfg c a mode ro) b = evRes c b := by
    funext x; unfold evRes; rw [icfg_reg, resolve_app hne ha]
  rw [runHandler_eq, runHandler_eq, he]
  rfl

theorem handleEvent_app (t : Eio) (nsp : Option Str) (id : Option Nat) (d : Option J) (hne : nsp.getD ['/'] ≠ a) :
    Commutes a (handleEvent (Instrumented.cfg c a mode ro) s t nsp id d)
      (handleEvent c (appPart a s) t nsp id d) := by
  unfold handleEvent
  dsimp only
  split
  · rfl
  · rw [appPart_rooms, sidOf_app hne]
    split
    · rfl
    · rw [isConnected_app hne, icfg_async]
      split
      · rfl
      · split
        · simp [appPart, List.filter_append, bne_iff_ne.mpr hne, appR]
        · exact runHandler_app ha _ hne

end commute

theorem emitFold_app (a : Ns) (ns : Ns) (payload : List J) (tok : CbTok) (rs : List (Sid × Eio))
    (s : Srv) (o : List Out) :
    Commutes a (rs.foldl (emitOne ns payload tok) (s, o))
      (rs.foldl (emitOne ns payload tok) (appPart a s, o)) := by
  induction rs generalizing s o with
  | nil => rfl
  | cons r rs ih => exact ih (emitOne ns payload tok (s, o) r).1 (emitOne ns payload tok (s, o) r).2

theorem emit_app {a ns : Ns} (hne : ns ≠ a) (s : Srv) (ev : Str) (d : Data) (to : Target)
    (skip : List Sid) (cb : Option CbTok) :
    Commutes a (emit s ev d ns to skip cb)
      (emit (appPart a s) ev d ns to skip cb) := by
  cases cb with
  | none =>
    simp only [emit, appPart_rooms, hasNs_app hne, recipients_app hne, sendTo_appPart]
    split <;> rfl
  | some tok =>
    rw [emit_cb_eq, emit_cb_eq, appPart_rooms, hasNs_app hne, recipients_app hne]
    split
    · rfl
    · exact emitFold_app a ns _ tok _ s []

def NoOut (p : Out → Bool) (outs : List Out) : Prop := ∀ o ∈ outs, p o = false

theorem NoOut.nil {p : Out → Bool} : NoOut p [] := fun _ h => nomatch h

theorem NoOut.append {p : Out → Bool} {x y : List Out} (hx : NoOut p x) (hy : NoOut p y) :
    NoOut p (x ++ y) := List.forall_mem_append.mpr ⟨hx, hy⟩

theorem NoOut.cons {p : Out → Bool} {o : Out} {x : List Out} (ho : p o = false) (hx : NoOut p x) :
    NoOut p (o :: x) := List.forall_mem_cons.mpr ⟨ho, hx⟩

theorem target_iff {r : Resolved} {slot : Slot} {a : List J} :
    r.target = some (slot, a) ↔ r = .fn slot a ∨ r = .clsCall slot a := by
  cases r <;> simp [Resolved.target]

/-- `p` holds of no output other than invocations, and of no invocation `reg` resolves an event to -/
structure Unseen (p : Out → Bool) (reg : Registry) : Prop where
  other : ∀ o, (∀ slot args, o ≠ .invoke slot args) → p o = false
  invoke : ∀ {ns ev args r}, resolve reg ns ev args = .ok r → ∀ slot args',
    (r = .fn slot args' ∨ r = .clsCall slot args') → p (.invoke slot args') = false

/-- what holds of the result `r` of every step from `s`: `p` sees none of its outputs, and with
    synchronous handlers an empty queue of background handlers is empty afterwards (the handlers
    leave the queue alone, `settle` clears it) -/
def Tame (p : Out → Bool) (cfg : Cfg) (s : Srv) (r : Srv × List Out) : Prop :=
  NoOut p r.2 ∧ (cfg.asyncHandlers = false → s.bg = [] → r.1.bg = [])

section tame
variable {p : Out → Bool} {cfg : Cfg} (hp : Unseen p cfg.reg)

theorem Tame.of {s s' : Srv} {o : List Out} (ho : NoOut p o) (hb : s'.bg = s.bg) :
    Tame p cfg s (s', o) := ⟨ho, fun _ => hb.trans⟩

theorem Tame.refl (s : Srv) : Tame p cfg s (s, []) := .of .nil rfl

theorem Tame.seq {s : Srv} {r₁ r₂ : Srv × List Out} (h₁ : Tame p cfg s r₁) (h₂ : Tame p cfg r₁.1 r₂) :
    Tame p cfg s (r₂.1, r₁.2 ++ r₂.2) :=
  ⟨h₁.1.append h₂.1, fun hs h0 => h₂.2 hs (h₁.2 hs h0)⟩

include hp

theorem Unseen.one {o : Out} (ho : ∀ slot args, o ≠ .invoke slot args) : NoOut p [o] :=
  .cons (hp.other o ho) .nil

theorem endSession_tame (s : Srv) (sid : Sid) (ns : Ns) (reason : Str) (b : Bool) :
    Tame p cfg s ((endSession cfg s sid ns reason b).1, (endSession cfg s sid ns reason b).2.1) := by
  refine ⟨endSession_all (fun _ _ _ _ => hp.other (.send _ _) nofun) (fun _ => hp.other (.raised _) nofun)
    (fun r slot a hr ht => hp.invoke hr slot a (target_iff.mp ht)) b, fun _ h0 => ?_⟩
  rw [endSession_eq]
  exact h0

theorem handleDisconnect_tame (s : Srv) (t : Eio) (ns : Ns) (reason : Str) :
    Tame p cfg s ((handleDisconnect cfg s t ns reason).1, (handleDisconnect cfg s t ns reason).2.1) := by
  unfold handleDisconnect
  split
  · exact .refl s
  · split
    · exact .refl s
    · exact endSession_tame hp ..

theorem apiDisconnect_tame (s : Srv) (sid : Sid) (ns : Ns) :
    Tame p cfg s (apiDisconnect cfg s sid ns) := by
  unfold apiDisconnect
  split
  · exact .refl s
  · exact endSession_tame hp ..

theorem handleConnect_tame (s : Srv) (t : Eio) (nsp : Option Str) (d : Option J) :
    Tame p cfg s (handleConnect cfg s t nsp d) := by
  refine ⟨handleConnect_all (fun _ _ => hp.other (.send _ _) nofun) (fun _ => hp.other (.raised _) nofun)
    (fun _ slot a hr ht => hp.invoke hr slot a (target_iff.mp ht)), fun _ h0 => ?_⟩
  rcases handleConnect_state cfg s t nsp d with h1 | ⟨rooms', k, _, hc, h1 | ⟨p, hp, h1⟩⟩ <;>
    rw [h1] <;> exact h0

theorem runHandler_tame (s : Srv) (b : Bg) : Tame p cfg s (runHandler cfg s b) := by
  refine ⟨runHandler_all (fun _ _ => hp.other (.send _ _) nofun) (fun _ => hp.other (.raised _) nofun)
    (fun _ slot a hr ht => hp.invoke hr slot a (target_iff.mp ht)) s, fun _ h0 => ?_⟩
  rw [runHandler_eq]
  exact h0

theorem handleEvent_tame (s : Srv) (t : Eio) (nsp : Option Str) (id : Option Nat) (d : Option J) :
    Tame p cfg s (handleEvent cfg s t nsp id d) := by
  unfold handleEvent
  dsimp only
  split
  · exact .of (hp.one nofun) rfl
  · split
    · exact .refl s
    · split
      · exact .refl s
      · split
        · rename_i ha
          exact ⟨.nil, fun hs => absurd ha (by simp [hs])⟩
        · exact runHandler_tame hp ..

theorem handleAck_tame (s : Srv) (t : Eio) (nsp : Option Str) (id : Option Nat) (d : Option J) :
    Tame p cfg s (handleAck s t nsp id d) := by
  rcases handleAck_cases s t nsp id d with h | ⟨sid, i, tok, _, _, _, h⟩ <;> rw [h]
  · exact .refl s
  · split
    · exact .of (hp.one nofun) rfl
    · exact .of (hp.one nofun) rfl
    · exact .of .nil rfl

theorem handleFrame_tame (dec : Str → Except Err (Packet × Nat)) (s : Srv) (t : Eio) (v : J) :
    Tame p cfg s (handleFrame dec cfg s t v) :=
  frame_cases (motive := Tame p cfg s) (fun _ => .of (hp.one nofun) rfl)
    (fun o _ ho => .of (fun x hx => by obtain ⟨e, rfl⟩ := ho x hx; exact hp.other _ nofun) rfl)
    (fun hc => by rcases hc.state with rfl | rfl <;> exact handleEvent_tame hp ..)
    (fun hc => by rcases hc.state with rfl | rfl <;> exact handleAck_tame hp ..)
    (fun _ _ => handleConnect_tame hp ..) (fun _ => handleDisconnect_tame hp ..)
    (fun _ _ _ => .of .nil rfl)

theorem lostGo_tame (t : Eio) (reason : Str) (nss : List Ns) (s : Srv) :
    Tame p cfg s (handleLost.go cfg t reason s [] nss) := by
  induction nss generalizing s with
  | nil => exact .refl s
  | cons ns rest ih =>
    rw [handleLost.go, lostGo_outs_eq]
    exact (handleDisconnect_tame hp s t ns reason).seq (ih _)

theorem handleLost_tame (s : Srv) (t : Eio) (reason : Str) :
    Tame p cfg s (handleLost cfg s t reason) := by
  rw [handleLost_eq]
  split
  · exact .refl s
  · exact lostGo_tame hp t reason _ s

theorem drain_tame (s₀ : Srv) (bs : List Bg) :
    ∀ (s : Srv) (o : List Out), Tame p cfg s₀ (s, o) → Tame p cfg s₀ (step.drain cfg s o bs) := by
  induction bs with
  | nil => exact fun _ _ h => h
  | cons b rest ih =>
    intro s o h
    rw [step.drain]
    exact ih _ _ (h.seq (runHandler_tame hp s b))

theorem emit_tame (s : Srv) (ev : Str) (d : Data) (ns : Ns) (to : Target) (skip : List Sid)
    (cb : Option CbTok) : Tame p cfg s (emit s ev d ns to skip cb) :=
  .of (emit_outs s ev d ns to skip cb _ fun _ _ => hp.other (.send _ _) nofun)
    (congrArg Srv.bg (emit_state ..) :)

/-- every input, every history (blocking `call()`s with their nested histories included) -/
theorem step_run_tame (dec : Str → Except Err (Packet × Nat)) :
    (∀ (s : Srv) (i : Input), Tame p cfg s (Server.step dec cfg s i)) ∧
    (∀ (s : Srv) (is : List Input), Tame p cfg s (Server.run dec cfg s is)) := by
  apply step_run_induct dec cfg (P := fun s i => Tame p cfg s (Server.step dec cfg s i))
    (Q := fun s is => Tame p cfg s (Server.run dec cfg s is))
  · intro s i hi
    cases i with
    | eioConnect t | leaveRoom sid ns room | closeRoom ns room => rw [step]; exact .refl s
    | frame t v => rw [step]; exact handleFrame_tame hp dec s t v
    | eioLost t r => rw [step]; exact handleLost_tame hp s t r
    | emit ev d ns to skip cb => rw [step]; exact emit_tame hp ..
    | call ev d ns sid during => exact absurd rfl (hi ev d ns sid during)
    | apiDisconnect sid ns => rw [step]; exact apiDisconnect_tame hp s sid ns
    | enterRoom sid ns room =>
      rw [step]
      split
      · exact .refl s
      · exact .of (hp.one nofun) rfl
    | rooms sid ns => rw [step]; exact .of (hp.one nofun) rfl
    | getSession sid ns =>
      rw [step]
      split
      · exact .of (hp.one nofun) rfl
      · split
        · exact .of (hp.one nofun) rfl
        · exact .of (hp.one nofun) (congrArg Srv.bg (sessSet_eq ..) :)
    | saveSession sid ns v =>
      rw [step]
      split
      · exact .of (hp.one nofun) rfl
      · exact .of .nil (congrArg Srv.bg (sessSet_eq ..) :)
    | sessionBlock sid ns k v =>
      rw [step]
      split
      · exact .of (hp.one nofun) rfl
      · exact .of (hp.one nofun) (congrArg Srv.bg (sessSet_eq ..) :)
    | settle =>
      rw [step]
      have h := drain_tame hp { s with bg := [] } s.bg _ [] (.refl _)
      exact ⟨h.1, fun hs _ => h.2 hs rfl⟩
  · intro s ev d ns sid during ih
    rw [step_call]
    split
    · exact .of (hp.one nofun) rfl
    · rename_i hc
      have hc : cfg.asyncHandlers = true := by simpa using hc
      refine ⟨((emit_tame hp ..).1.append (ih hc).1).append (hp.one ?_), fun hs => by simp [hs] at hc⟩
      unfold callOutcome
      split <;> nofun
  · intro s; rw [run_nil]; exact .refl s
  · intro s i is h1 h2
    rw [run_cons]
    exact h1.seq h2

end tame

/-- nothing in `outs` is visible on the application side (exceptions being contained) -/
def Hidden (a : Ns) (outs : List Out) : Prop := ∀ o ∈ outs, appVisible a true o = false

theorem hidden_send {a : Ns} {b : Bool} (t : Eio) (pk : Packet) (h : pk.nsp = some a) :
    appVisible a b (.send t pk) = false := by
  simp [appVisible, h]

theorem Hidden.append {a : Ns} {x y : List Out} (hx : Hidden a x) (hy : Hidden a y) :
    Hidden a (x ++ y) := NoOut.append hx hy

theorem Hidden.filter {a : Ns} {x : List Out} (h : Hidden a x) (b : Bool) :
    x.filter (appVisible a b) = [] ∨ b = false := by
  cases b
  · exact Or.inr rfl
  · exact Or.inl (List.filter_eq_nil_iff.mpr fun o ho => by simp [h o ho])

theorem appPart_bumpBy (a : Ns) (k : Skip) (s : Srv) : appPart a (bumpBy k s) = bumpBy k (appPart a s) := rfl

theorem bumpBy_zero (s : Srv) : bumpBy {} s = s := rfl

/-- a CONNECT to `a`, accepted or not, moves the application part by the generators' positions only -/
theorem handleConnect_bump {a : Ns} (cfg : Cfg) {s : Srv} (h : Server.WF s) (t : Eio)
    (nsp : Option Str) (d : Option J) (hns : nsp.getD ['/'] = a) :
    ∃ k, appPart a (handleConnect cfg s t nsp d).1 = bumpBy k (appPart a s) := by
  rcases handleConnect_state cfg s t nsp d with h1 | ⟨rooms', k, _, hc, h1 | ⟨p, hp, h1⟩⟩
  · exact ⟨{}, congrArg (appPart a) h1⟩
  · have hr := connect_admin (hns ▸ hc)
    simp only [appR] at hr
    exact ⟨⟨1, k, 0⟩, by simp only [h1, appPart, connected, bumpBy, hr, Nat.add_zero]⟩
  · refine ⟨⟨1, k, 0⟩, ?_⟩
    rw [h1, refusedSt_eq h.toWF0 hc]
    rcases hp with rfl | rfl <;> simp [appPart, bumpBy, h.pendingNil]

/-- no callback and no ack counter is held for a session of the admin namespace (the reports carry
    no callback, and the application does not emit to the admin namespace) -/
def NoAdminCb (a : Ns) (s : Srv) : Prop :=
  ∀ e ∈ s.rooms, e.ns = a → (∀ c ∈ s.cbs, c.1 ≠ e.sid) ∧ (∀ c ∈ s.ctr, c.1 ≠ e.sid)

theorem noAdminCb_of_wf {a : Ns} {s : Srv} (h : Server.WF s) (h' : Server.WF (appPart a s)) :
    NoAdminCb a s := by
  intro e he hea
  have key : ∀ sid, sidLive (appPart a s).rooms sid → sid ≠ e.sid := by
    rintro sid ⟨ns, eio, hm⟩ heq
    obtain ⟨hm1, hm2⟩ := mem_appR.mp hm
    have := h.sidNs _ hm1 _ he heq
    exact hm2 (this.trans hea)
  exact ⟨fun c hc => key _ (h'.cbsLive c hc), fun c hc => key _ (h'.ctrLive c hc)⟩

theorem handleDisconnect_plain (a : Ns) (c : Cfg) (s : Srv) (t : Eio) (reason : Str) :
    handleDisconnect c (appPart a s) t a reason = (appPart a s, [], false) := by
  unfold handleDisconnect
  rw [appPart_rooms, sidOf_appR_admin]

/-- what `resolve` can return for an event of `ns` when there are no catch-all namespace handlers:
    a function registered on `ns`, or a method of the class registered for `ns` -/
def shapeOk (reg : Registry) (ns : Ns) : Resolved → Prop
  | .fn slot _ => ∃ e, slot = .fn ns e ∧ reg.fn ns e = true
  | .clsCall slot _ => ∃ m, slot = .cls ns m
  | _ => True

theorem inDict_true {has : Str → Bool} {ev : J} (h : inDict has ev = true) :
    has ((evStr ev).getD []) = true := by
  unfold inDict at h
  split at h
  · rename_i s hs; rw [hs]; exact h
  · cases h

section noStar
variable {reg : Registry} (h0 : reg.fnNs star = false ∧ reg.cls star = false)
  {ns : Ns} {ev : J} {args : List J} {r : Resolved} (h : resolve reg ns ev args = .ok r)
include h0 h

theorem resolve_shape : shapeOk reg ns r := by
  cases resolveCase h with
  | fn hn hf hin =>
    rcases hn with ⟨rfl, _⟩ | ⟨rfl, _⟩
    · exact ⟨_, rfl, inDict_true hin⟩
    · rw [h0.1] at hf; cases hf
  | fnStar hn hf hs =>
    rcases hn with ⟨rfl, _⟩ | ⟨rfl, _⟩
    · exact ⟨_, rfl, hs⟩
    · rw [h0.1] at hf; cases hf
  | cls hn hc _ =>
    rcases hn with ⟨rfl, _⟩ | ⟨rfl, _⟩
    · exact ⟨_, rfl⟩
    · rw [h0.2] at hc; cases hc
  | clsNoMethod => trivial
  | notHandled => trivial

/-- without catch-all namespace handlers, an event of namespace `ns` resolves to a handler of `ns` -/
theorem resolve_slotNs {slot : Slot} {args' : List J} (hr : r = .fn slot args' ∨ r = .clsCall slot args') :
    slotNs slot = ns := by
  have hs := resolve_shape h0 h
  rcases hr with rfl | rfl
  · obtain ⟨e, rfl, _⟩ := hs; rfl
  · obtain ⟨m, rfl⟩ := hs; rfl

end noStar

theorem instrumentReg_noStar {app : Registry} {a : Ns} (hc : AppClear app a) (ha : a ≠ star)
    {mode : Str} {ro : Bool} :
    (instrumentReg app a mode ro).fnNs star = false ∧ (instrumentReg app a mode ro).cls star = false := by
  simp [instrumentReg, beq_eq_false_iff_ne.mpr ha.symm, hc.starFn, hc.starCls]

theorem handleConnect_hidden (cfg : Cfg) (h0 : cfg.reg.fnNs star = false ∧ cfg.reg.cls star = false)
    (s : Srv) (t : Eio) (nsp : Option Str) (d : Option J) :
    Hidden (nsp.getD ['/']) (handleConnect cfg s t nsp d).2 :=
  handleConnect_all (hidden_send t) (fun _ => rfl)
    fun _ _ _ hr ht => by simp [appVisible, resolve_slotNs h0 hr (target_iff.mp ht)]

/-- a handler of namespace `ns` run on a configuration without catch-all namespace handlers:
    the state changes only by the position of the event script; every output is an invocation
    of a handler of `ns`, a packet of `ns`, or a contained exception -/
theorem runHandler_ns (cfg : Cfg) (h0 : cfg.reg.fnNs star = false ∧ cfg.reg.cls star = false)
    (s : Srv) (b : Bg) :
    (∃ k, (runHandler cfg s b).1 = { s with nEv := s.nEv + k }) ∧ Hidden b.ns (runHandler cfg s b).2 :=
  ⟨⟨_, congrArg Prod.fst (runHandler_eq cfg s b)⟩, runHandler_all (hidden_send _) (fun _ => rfl)
    (fun _ _ _ hr ht => by simp [appVisible, resolve_slotNs h0 hr (target_iff.mp ht)]) s⟩

theorem handleEvent_plain (a : Ns) (c : Cfg) (s : Srv) (t : Eio) (nsp : Option Str) (id : Option Nat)
    (d : Option J) (hns : nsp.getD ['/'] = a) :
    (handleEvent c (appPart a s) t nsp id d).1 = appPart a s ∧
    Hidden a (handleEvent c (appPart a s) t nsp id d).2 := by
  unfold handleEvent
  simp only [hns, appPart_rooms, sidOf_appR_admin]
  split
  · exact ⟨rfl, NoOut.cons rfl .nil⟩
  · exact ⟨rfl, NoOut.nil⟩

/-- `x` (instrumented) simulates `y` (plain): the application parts of the states agree up to the
    generators' positions, and the application side observes the same outputs (`cont`: exceptions
    are contained, hence unobservable) -/
def Sim (a : Ns) (cont : Bool) (x y : Srv × List Out) : Prop :=
  (∃ k, appPart a x.1 = bumpBy k y.1) ∧
  x.2.filter (appVisible a cont) = y.2.filter (appVisible a cont)

theorem Sim.of_app {a : Ns} {cont : Bool} {x y : Srv × List Out} (h : Commutes a x y) :
    Sim a cont x y := by
  subst h; exact ⟨⟨{}, rfl⟩, rfl⟩

theorem Sim.of_admin {a : Ns} {s : Srv} {x y : Srv × List Out}
    (hx : ∃ k, appPart a x.1 = bumpBy k (appPart a s)) (hxo : Hidden a x.2)
    (hy : y.1 = appPart a s) (hyo : Hidden a y.2) : Sim a true x y := by
  refine ⟨by rw [hy]; exact hx, ?_⟩
  rw [(hxo.filter true).resolve_right nofun, (hyo.filter true).resolve_right nofun]

/-- no callback is held for a session of `a`, and the plain server has no such session: an ACK
    commutes outright, whatever its namespace -/
theorem handleAck_app {a : Ns} {s : Srv} (hcb : NoAdminCb a s) (t : Eio) (nsp : Option Str) (id : Option Nat) (d : Option J) :
    Commutes a (handleAck s t nsp id d) (handleAck (appPart a s) t nsp id d) := by
  unfold handleAck
  by_cases hns : nsp.getD ['/'] = a
  · simp only [hns, appPart_rooms, sidOf_appR_admin]
    split
    · rename_i sid i hs
      have hnone : s.cbs.find? (fun c => c.1 = sid ∧ c.2.1 = i) = none :=
        List.find?_eq_none.mpr fun c hc => by simp [(hcb _ (sidOf_some_mem hs) rfl).1 c hc]
      simp only [hnone]
    · rfl
  · dsimp only
    rw [appPart_rooms, sidOf_app hns, appPart_cbs]
    split
    · split
      · rfl
      · split
        · rfl
        · split <;> rfl
    · rfl

theorem NoAdminCb.handleDisconnect {a : Ns} {s : Srv} (hcb : NoAdminCb a s) (cfg : Cfg) (t : Eio)
    (ns : Ns) (reason : Str) : NoAdminCb a (handleDisconnect cfg s t ns reason).1 := by
  rcases handleDisconnect_state cfg s t ns reason with ⟨h1, _⟩ | ⟨sid, k, _, _, h1⟩
  · rw [h1]; exact hcb
  · -- rooms, callbacks and counters of the new state are filters of the old ones
    rw [h1]
    intro e he hea
    obtain ⟨k1, k2⟩ := hcb e (List.mem_filter.mp he).1 hea
    exact ⟨fun c hc => k1 c (List.mem_filter.mp hc).1, fun c hc => k2 c (List.mem_filter.mp hc).1⟩

theorem runHandler_unhandled {cfg : Cfg} {s : Srv} {b : Bg} (hb : Instrumented.handled cfg.reg b = false) :
    (runHandler cfg s b).1 = s := by
  unfold Instrumented.handled at hb
  unfold runHandler
  split
  · rfl
  · rename_i r hr
    rw [hr] at hb
    cases r <;> simp at hb <;> rfl

section sim
variable {a : Ns} (ha : a ≠ star) {c : Cfg} (hc : AppClear c.reg a) {mode : Str} {ro : Bool} {s : Srv}
include ha hc

theorem handleDisconnect_admin (h : Server.WF s) (hcb : NoAdminCb a s) (t : Eio) (reason : Str) :
    appPart a (handleDisconnect (Instrumented.cfg c a mode ro) s t a reason).1 = appPart a s ∧
    (handleDisconnect (Instrumented.cfg c a mode ro) s t a reason).2.1 = [] := by
  unfold handleDisconnect
  split
  · exact ⟨rfl, rfl⟩
  · rename_i sid hs
    split
    · exact ⟨rfl, rfl⟩
    · have hm := sidOf_some_mem hs
      obtain ⟨h2, h3⟩ := hcb _ hm rfl
      have h2' := filter_sid_ne_self h2
      have h3' := filter_sid_ne_self h3
      have hd' := disconnect_admin a s.rooms sid
      have hdisc : "disconnect".toList ∉ registered mode ro := by unfold registered; split <;> decide
      simp only [endSession, icfg_reg, resolve_unregistered hc ha hdisc, Bool.false_eq_true, if_false,
        List.append_nil]
      simp only [appR] at hd'
      simp [appPart, mgrDisconnect, h2', h3', hd', h.pendingNil]

theorem handleEvent_admin (s : Srv) (t : Eio) (nsp : Option Str) (id : Option Nat) (d : Option J)
    (hns : nsp.getD ['/'] = a) :
    (∃ k, appPart a (handleEvent (Instrumented.cfg c a mode ro) s t nsp id d).1 = bumpBy k (appPart a s)) ∧
    Hidden a (handleEvent (Instrumented.cfg c a mode ro) s t nsp id d).2 := by
  unfold handleEvent
  simp only [hns]
  split
  · exact ⟨⟨{}, rfl⟩, NoOut.cons rfl .nil⟩
  · split
    · exact ⟨⟨{}, rfl⟩, NoOut.nil⟩
    · split
      · exact ⟨⟨{}, rfl⟩, NoOut.nil⟩
      · split
        · refine ⟨⟨{}, ?_⟩, NoOut.nil⟩
          simp [appPart, List.filter_append, bumpBy]
        · rename_i first rest _ _ sid _ _ _
          obtain ⟨⟨k, hk⟩, ho⟩ := runHandler_ns (Instrumented.cfg c a mode ro)
            (instrumentReg_noStar hc ha) s ⟨sid, t, first, rest, a, id⟩
          rw [hk]
          exact ⟨⟨⟨0, 0, k⟩, rfl⟩, ho⟩

theorem handleConnect_sim (hserved : isServed c a = false) (h : Server.WF s) (t : Eio) (nsp : Option Str) (d : Option J) :
    Sim a true (handleConnect (Instrumented.cfg c a mode ro) s t nsp d)
      (handleConnect c (appPart a s) t nsp d) := by
  by_cases hns : nsp.getD ['/'] = a
  · have h3 : (handleConnect c (appPart a s) t nsp d).1 = appPart a s := by
      simp only [handleConnect, hns, hserved, Bool.false_eq_true, if_false]
    subst hns
    exact Sim.of_admin (handleConnect_bump _ h t nsp d rfl)
      (handleConnect_hidden (Instrumented.cfg c _ mode ro) (instrumentReg_noStar hc ha) s t nsp d)
      h3 (handleConnect_hidden c ⟨hc.starFn, hc.starCls⟩ _ t nsp d)
  · exact Sim.of_app (handleConnect_app ha t nsp d hns)

theorem handleDisconnect_sim (h : Server.WF s) (hcb : NoAdminCb a s) (t : Eio) (ns : Ns) (reason : Str) :
    Sim a true ((handleDisconnect (Instrumented.cfg c a mode ro) s t ns reason).1,
        (handleDisconnect (Instrumented.cfg c a mode ro) s t ns reason).2.1)
      ((handleDisconnect c (appPart a s) t ns reason).1,
        (handleDisconnect c (appPart a s) t ns reason).2.1) := by
  by_cases hns : ns = a
  · subst hns
    obtain ⟨h1, h2⟩ := handleDisconnect_admin ha hc h hcb t reason
    rw [handleDisconnect_plain]
    exact ⟨⟨{}, h1⟩, by rw [h2]⟩
  · apply Sim.of_app
    rw [handleDisconnect_app ha t hns]

theorem handleEvent_sim (t : Eio) (nsp : Option Str) (id : Option Nat) (d : Option J) :
    Sim a true (handleEvent (Instrumented.cfg c a mode ro) s t nsp id d)
      (handleEvent c (appPart a s) t nsp id d) := by
  by_cases hns : nsp.getD ['/'] = a
  · obtain ⟨h1, h2⟩ := handleEvent_admin ha hc s t nsp id d hns
    obtain ⟨h3, h4⟩ := handleEvent_plain a c s t nsp id d hns
    exact Sim.of_admin h1 h2 h3 h4
  · exact Sim.of_app (handleEvent_app ha t nsp id d hns)

theorem dispatchPacket_sim (hserved : isServed c a = false) (h : Server.WF s) (hcb : NoAdminCb a s)
    (t : Eio) (p : Packet) (n : Nat) :
    Sim a true (dispatchPacket (Instrumented.cfg c a mode ro) s t p n)
      (dispatchPacket c (appPart a s) t p n) := by
  unfold dispatchPacket
  by_cases h1 : p.type = CONNECT
  · rw [if_pos h1, if_pos h1]; exact handleConnect_sim ha hc hserved h ..
  rw [if_neg h1, if_neg h1]
  by_cases h2 : p.type = DISCONNECT
  · rw [if_pos h2, if_pos h2]; exact handleDisconnect_sim ha hc h hcb ..
  rw [if_neg h2, if_neg h2]
  by_cases h3 : p.type = EVENT
  · rw [if_pos h3, if_pos h3]; exact handleEvent_sim ha hc ..
  rw [if_neg h3, if_neg h3]
  by_cases h4 : p.type = ACK
  · rw [if_pos h4, if_pos h4]; exact Sim.of_app (handleAck_app hcb ..)
  rw [if_neg h4, if_neg h4]
  split <;> exact Sim.of_app rfl

theorem handleFrame_sim (hserved : isServed c a = false) (h : Server.WF s) (hcb : NoAdminCb a s)
    (dec : Str → Except Err (Packet × Nat)) (t : Eio) (v : J) :
    Sim a true (handleFrame dec (Instrumented.cfg c a mode ro) s t v)
      (handleFrame dec c (appPart a s) t v) := by
  unfold handleFrame
  rw [appPart_binbuf]
  split
  · split
    · exact Sim.of_app rfl
    · dsimp only
      split
      · split
        · exact Sim.of_app rfl
        · split
          · exact handleEvent_sim ha hc ..
          · exact Sim.of_app (handleAck_app (s := { s with binbuf := s.binbuf.filter (fun e => e.1 != t) }) hcb ..)
      · exact Sim.of_app rfl
  · dsimp only
    split
    · exact Sim.of_app rfl
    · exact dispatchPacket_sim ha hc hserved h hcb ..


/-- a session of `a` is closed without output: the loop of `handleLost` commutes outright -/
theorem lostGo_app (t : Eio) (reason : Str) (nss : List Ns) :
    ∀ {s : Srv} (_ : Server.WF s) (_ : NoAdminCb a s) (o : List Out),
      Commutes a (handleLost.go (Instrumented.cfg c a mode ro) t reason s o nss)
        (handleLost.go c t reason (appPart a s) o (nss.filter (· != a))) := by
  induction nss with
  | nil => intro s _ _ o; rfl
  | cons ns rest ih =>
    intro s h hcb o
    have hw := h.handleDisconnect (Instrumented.cfg c a mode ro) t ns reason
    have hcb' := hcb.handleDisconnect (Instrumented.cfg c a mode ro) t ns reason
    by_cases hns : ns = a
    · subst hns
      obtain ⟨h1, h2⟩ := handleDisconnect_admin ha hc h hcb t reason
      simp only [List.filter_cons, bne_self_eq_false, Bool.false_eq_true, if_false]
      rw [handleLost.go, h2, List.append_nil, ← h1]
      exact ih hw hcb' o
    · simp only [List.filter_cons, bne_iff_ne.mpr hns, if_true]
      rw [handleLost.go, handleLost.go, handleDisconnect_app ha t hns]
      exact ih hw hcb' _

theorem handleLost_sim (h : Server.WF s) (hcb : NoAdminCb a s) (t : Eio) (reason : Str) :
    Sim a true (handleLost (Instrumented.cfg c a mode ro) s t reason)
      (handleLost c (appPart a s) t reason) := by
  rw [handleLost_eq, handleLost_eq, appPart_socks]
  split
  · exact Sim.of_app rfl
  · rw [appPart_rooms, namespacesOf_app, lostGo_app ha hc t reason _ h hcb []]
    exact Sim.of_app rfl


theorem drain_sim (bs : List Bg)
    (hq : ∀ b ∈ bs, b.ns = a → Instrumented.handled (Instrumented.cfg c a mode ro).reg b = false) :
    ∀ (s : Srv) (o o' : List Out),
      o.filter (appVisible a true) = o'.filter (appVisible a true) →
      appPart a (step.drain (Instrumented.cfg c a mode ro) s o bs).1 =
        (step.drain c (appPart a s) o' (bs.filter (fun b => b.ns != a))).1 ∧
      (step.drain (Instrumented.cfg c a mode ro) s o bs).2.filter (appVisible a true) =
        (step.drain c (appPart a s) o' (bs.filter (fun b => b.ns != a))).2.filter (appVisible a true) := by
  induction bs with
  | nil => intro s o o' ho; exact ⟨rfl, ho⟩
  | cons b rest ih =>
    intro s o o' ho
    obtain ⟨hb, hq'⟩ := List.forall_mem_cons.mp hq
    by_cases hns : b.ns = a
    · have hst := runHandler_unhandled (s := s) (hb hns)
      have hhid := (runHandler_ns (Instrumented.cfg c a mode ro) (instrumentReg_noStar hc ha) s b).2
      rw [hns] at hhid
      simp only [List.filter_cons, bne_eq_false_iff_eq.mpr hns, Bool.false_eq_true, if_false]
      rw [step.drain, hst]
      refine ih hq' s _ _ ?_
      rw [List.filter_append, ho, (hhid.filter true).resolve_right nofun, List.append_nil]
    · simp only [List.filter_cons, bne_iff_ne.mpr hns, if_true]
      rw [step.drain, step.drain, runHandler_app ha b hns]
      refine ih hq' _ _ _ ?_
      rw [List.filter_append, List.filter_append, ho]

end sim

theorem sessSock_app {a ns : Ns} (hne : ns ≠ a) (s : Srv) (sid : Sid) :
    sessSock (appPart a s) sid ns = sessSock s sid ns := by
  simp only [sessSock, appPart_rooms, eioOf_app hne, appPart_socks]
  rfl

theorem sessGet_appPart (a : Ns) (s : Srv) (t : Eio) (ns : Ns) : sessGet (appPart a s) t ns = sessGet s t ns := rfl

theorem sessSet_appPart (a : Ns) (s : Srv) (t : Eio) (ns : Ns) (v : J) :
    sessSet (appPart a s) t ns v = appPart a (sessSet s t ns v) := by
  unfold sessSet
  rw [appPart_sess]
  split <;> rfl

theorem emitReports_spec {dec : Str → Except Err (Packet × Nat)} {ci : Cfg} {a : Ns}
    {rs : List Report} {s : Srv} :
    (Instrumented.emitReports dec ci a s rs).1 = s ∧
    ∀ o ∈ (Instrumented.emitReports dec ci a s rs).2, ∃ t pk, o = .send t pk ∧ pk.nsp = some a := by
  induction rs generalizing s with
  | nil => exact ⟨rfl, fun _ h => nomatch h⟩
  | cons r rs ih =>
    have hstep : Server.step dec ci s (.emit r.ev r.data a r.to [] none) =
        emit s r.ev r.data a r.to [] none := by rw [step]; rfl
    simp only [Instrumented.emitReports, hstep, emit_nocb_state]
    refine ⟨ih.1, List.forall_mem_append.mpr ⟨fun o ho => ?_, ih.2⟩⟩
    obtain ⟨t, rfl⟩ := emit_nocb_outs ho
    exact ⟨t, _, rfl, mkOut_ns ..⟩

theorem mutatorCalls_nil {a : Ns} {o : Out} (h : mutatorCalled a o = false) (s : Srv) :
    mutatorCalls a s o = [] := by
  cases o with
  | invoke slot args =>
    cases slot with
    | fn ns ev =>
      by_cases hns : ns = a
      · have hev : mutators.contains ev = false := by simpa [mutatorCalled, hns] using h
        have h1 : ev ≠ rStr "emit" := by intro e; subst e; revert hev; decide
        have h2 : ev ≠ rStr "join" := by intro e; subst e; revert hev; decide
        have h3 : ev ≠ rStr "leave" := by intro e; subst e; revert hev; decide
        have h4 : ev ≠ rStr "_disconnect" := by intro e; subst e; revert hev; decide
        simp only [mutatorCalls, hns, ne_eq, not_true_eq_false, if_false, h1, h2, h3, h4]
      · simp only [mutatorCalls, ne_eq, hns, not_false_eq_true, if_true]
    | cls ns m => rfl
  | send _ _ | callback _ _ | raised _ | result _ | timeout => rfl

section stepWith
variable {a : Ns} {c : Cfg} {mode : Str} {ro : Bool} {dec : Str → Except Err (Packet × Nat)}
  {rep : Srv → Input → List Out → List Report}

/-- when the step invoked no mutator the admin handlers make no API call: `stepWith` is
    `Server.step` followed by the reports -/
theorem stepWith_noCalls (s : Srv) (i : Input)
    (hn : ∀ o ∈ (Server.step dec (Instrumented.cfg c a mode ro) s i).2, mutatorCalled a o = false) :
    Instrumented.stepWith dec c a mode ro rep s i =
      ((Server.step dec (Instrumented.cfg c a mode ro) s i).1,
        (Server.step dec (Instrumented.cfg c a mode ro) s i).2 ++
          (Instrumented.emitReports dec (Instrumented.cfg c a mode ro) a
            (Server.step dec (Instrumented.cfg c a mode ro) s i).1
            (rep s i (Server.step dec (Instrumented.cfg c a mode ro) s i).2)).2) := by
  have hm : (Server.step dec (Instrumented.cfg c a mode ro) s i).2.flatMap
      (mutatorCalls a (Server.step dec (Instrumented.cfg c a mode ro) s i).1) = [] :=
    List.flatMap_eq_nil_iff.mpr fun o ho => mutatorCalls_nil (hn o ho) _
  simp only [Instrumented.stepWith, hm, run_nil, List.append_nil, emitReports_spec.1]

theorem stepWith_wf {s : Srv} (h : Server.WF s) (i : Input) :
    Server.WF (Instrumented.stepWith dec c a mode ro rep s i).1 := by
  simp only [Instrumented.stepWith]
  rw [emitReports_spec.1]
  exact (h.step dec _ i).run dec _ _

end stepWith

theorem WF.bumpBy {s : Srv} (h : Server.WF s) (k : Skip) : Server.WF (bumpBy k s) :=
  { h with sidAlloc := fun e he =>
      have ⟨n, hn, hs⟩ := h.sidAlloc e he
      ⟨n, Nat.lt_of_lt_of_le hn (Nat.le_add_right _ _), hs⟩ }

theorem appPart_idem (a : Ns) (s : Srv) : appPart a (appPart a s) = appPart a s := by
  simp only [appPart, List.filter_filter, Bool.and_self]

/-- the instrumented state `si` and the plain state `sp` between two inputs: both well formed, the
    application parts equal up to the generators' positions -/
structure Rel (a : Ns) (si sp : Srv) : Prop where
  wi : Server.WF si
  wp : Server.WF sp
  app : ∃ k, appPart a si = bumpBy k sp

theorem Rel.appState {a : Ns} {si sp : Srv} (h : Rel a si sp) : appState a si = appState a sp := by
  obtain ⟨k, hk⟩ := h.app
  -- `sp` has nothing of `a` either: it is the application part of `si`, but for the generators
  have h1 := congrArg (appPart a) hk
  rw [appPart_idem, hk] at h1
  unfold Admin.appState
  rw [hk]
  exact congrArg (fun s : Srv => { s with nextSid := 0, nConn := 0, nEv := 0 }) h1

/-- a frame of which `arriving` says that it delivers an EVENT packet completes that event: as a text
    frame in the state itself, or as the last attachment of a BINARY_EVENT -/
theorem arriving_completes {dec : Str → Except Err (Packet × Nat)} {s : Srv} {t : Eio} {v : J}
    {p : Packet} (h : arriving dec s t v = some p) (hty : p.type = EVENT) :
    ∃ s₀, CompletesEvent dec s t v p.nsp p.id p.data s₀ ∧
      (s.binbuf.find? (fun e => e.1 = t) = none → s₀ = s) := by
  unfold arriving at h
  split at h
  · rename_i t' part hf
    dsimp only at h
    split at h
    · cases h
    · rename_i h1
      split at h
      · rename_i h2
        have hbe : (if part.pkt.type = BINARY_EVENT then EVENT else ACK) = EVENT →
            part.pkt.type = BINARY_EVENT := by
          intro he
          by_cases hb : part.pkt.type = BINARY_EVENT
          · exact hb
          · rw [if_neg hb] at he; exact absurd he (by decide)
        split at h
        · rename_i j hj
          split at h
          · rename_i d hd
            cases h
            exact ⟨_, .binary hf h1 h2 (by simp only [reconData, hj, hd, Except.map]) (hbe hty),
              fun hn => absurd (hf.symm.trans hn) nofun⟩
          · cases h
        · rename_i hj
          cases h
          exact ⟨_, .binary hf h1 h2 (by unfold reconData; rw [hj]) (hbe hty),
            fun hn => absurd (hf.symm.trans hn) nofun⟩
      · cases h
  · rename_i hf
    have key : ∃ n, frameDecode dec v = .ok (p, n) := by
      unfold frameDecode
      split at h
      · split at h
        · rename_i q n hq
          cases h; exact ⟨n, hq⟩
        · cases h
      · cases h
      · rename_i h1 h2
        split at h
        · rename_i q n hq
          cases h
          refine ⟨n, ?_⟩
          split
          · exact absurd rfl (h1 _ _)
          · exact absurd rfl (h2 _ _)
          · exact hq
        · cases h
    obtain ⟨n, hn⟩ := key
    exact ⟨s, .text hf hn hty, fun _ => rfl⟩

/-- `i`, arriving in state `s`, is a text frame (no binary packet of its transport is being
    reassembled) that carries an EVENT packet of the admin namespace -/
def adminEventInput (dec : Str → Except Err (Packet × Nat)) (a : Ns) (s : Srv) : Input → Bool
  | .frame t v =>
    (s.binbuf.find? (fun e => e.1 = t)).isNone &&
    (match arriving dec s t v with
     | some p => p.type == EVENT && p.nsp.getD ['/'] == a
     | none => false)
  | _ => false

namespace Instrumented

/-- the history without the EVENT frames admin clients sent on the admin namespace (which frames
    these are is decided along the instrumented run) -/
def withoutAdminEvents (dec : Str → Except Err (Packet × Nat)) (c : Cfg) (a : Ns) (mode : Str)
    (ro : Bool) (rep : Srv → Input → List Out → List Report) : Srv → List Input → List Input
  | _, [] => []
  | s, i :: is =>
    if adminEventInput dec a s i then
      withoutAdminEvents dec c a mode ro rep (stepWith dec c a mode ro rep s i).1 is
    else i :: withoutAdminEvents dec c a mode ro rep (stepWith dec c a mode ro rep s i).1 is

end Instrumented

theorem adminEventInput_inv {dec : Str → Except Err (Packet × Nat)} {a : Ns} {s : Srv} {i : Input}
    (h : adminEventInput dec a s i = true) :
    ∃ t v p, i = .frame t v ∧ s.binbuf.find? (fun e => e.1 = t) = none ∧
      arriving dec s t v = some p ∧ p.type = EVENT ∧ p.nsp.getD ['/'] = a := by
  cases i with
  | frame t v =>
    simp only [adminEventInput, Bool.and_eq_true, Option.isNone_iff_eq_none] at h
    obtain ⟨hf, h2⟩ := h
    split at h2
    · rename_i p hp
      simp only [Bool.and_eq_true, beq_iff_eq] at h2
      exact ⟨t, v, p, rfl, hf, hp, h2.1, h2.2⟩
    · cases h2
  | _ => simp [adminEventInput] at h

section trace
variable {a : Ns} (ha : a ≠ star) {c : Cfg} (hc : AppClear c.reg a) (hserved : isServed c a = false)
  {mode : Str} {ro : Bool} {dec : Str → Except Err (Packet × Nat)}
  {rep : Srv → Input → List Out → List Report}
include ha hc hserved

theorem coreStep_sim {s : Srv} (h : Server.WF s) (hcb : NoAdminCb a s) (i : Input)
    (hi : appInput a i = true)
    (hq : Instrumented.quietStep c a mode ro s i (Server.step dec (Instrumented.cfg c a mode ro) s i).2 = true) :
    Sim a (contained i) (Server.step dec (Instrumented.cfg c a mode ro) s i)
      (Server.step dec c (appPart a s) i) := by
  cases i with
  | eioConnect t => rw [step, step]; exact Sim.of_app rfl
  | frame t v => rw [step, step]; exact handleFrame_sim ha hc hserved h hcb dec t v
  | eioLost t r => rw [step, step]; exact handleLost_sim ha hc h hcb t r
  | emit ev d ns to skip cb =>
    rw [step, step]; exact Sim.of_app (emit_app (bne_iff_ne.mp hi) s ev d to skip _)
  | call ev d ns sid during => simp [appInput] at hi
  | apiDisconnect sid ns =>
    rw [step, step]; exact Sim.of_app (apiDisconnect_app ha sid (bne_iff_ne.mp hi))
  | enterRoom sid ns room =>
    rw [step, step, appPart_rooms, enter_app (bne_iff_ne.mp hi)]
    cases Rooms.enter s.rooms ns sid room <;> exact Sim.of_app rfl
  | leaveRoom sid ns room =>
    rw [step, step, appPart_rooms]; unfold Rooms.leave; rw [← appR_filter]; exact Sim.of_app rfl
  | closeRoom ns room =>
    rw [step, step, appPart_rooms]; unfold Rooms.closeRoom; rw [← appR_filter]; exact Sim.of_app rfl
  | rooms sid ns =>
    rw [step, step, appPart_rooms, getRooms_app (bne_iff_ne.mp hi)]; exact Sim.of_app rfl
  | getSession sid ns =>
    rw [step, step, sessSock_app (bne_iff_ne.mp hi)]
    split
    · exact Sim.of_app rfl
    · rw [sessGet_appPart]
      split
      · exact Sim.of_app rfl
      · rw [sessSet_appPart]; exact Sim.of_app rfl
  | saveSession sid ns v =>
    rw [step, step, sessSock_app (bne_iff_ne.mp hi)]
    split
    · exact Sim.of_app rfl
    · rw [sessSet_appPart]; exact Sim.of_app rfl
  | sessionBlock sid ns k v =>
    rw [step, step, sessSock_app (bne_iff_ne.mp hi)]
    split
    · exact Sim.of_app rfl
    · dsimp only; rw [sessSet_appPart]; exact Sim.of_app rfl
  | settle =>
    rw [step, step]
    have hq' : ∀ b ∈ s.bg, b.ns = a →
        Instrumented.handled (Instrumented.cfg c a mode ro).reg b = false := fun b hb hns => by
      simpa [hns] using List.all_eq_true.mp (Bool.and_eq_true_iff.mp hq).2 b hb
    obtain ⟨h1, h2⟩ := drain_sim ha hc s.bg hq' { s with bg := [] } [] [] rfl
    exact ⟨⟨{}, h1⟩, h2⟩

theorem stepWith_sim {s : Srv} (h : Server.WF s)
    (hcb : NoAdminCb a s) (i : Input) (hi : appInput a i = true)
    (hq : Instrumented.quietStep c a mode ro s i (Server.step dec (Instrumented.cfg c a mode ro) s i).2 = true) :
    Sim a (contained i) (Instrumented.stepWith dec c a mode ro rep s i)
      (Server.step dec c (appPart a s) i) := by
  obtain ⟨⟨k, hk⟩, ho⟩ := coreStep_sim ha hc hserved h hcb i hi hq
  rw [stepWith_noCalls (rep := rep) s i fun o hmem => by
    simp only [Instrumented.quietStep, Bool.and_eq_true, Bool.not_eq_true', List.any_eq_false] at hq
    simpa using hq.1 o hmem]
  refine ⟨⟨k, hk⟩, ?_⟩
  rw [List.filter_append, ho, List.append_right_eq_self, List.filter_eq_nil_iff]
  intro o hmem
  obtain ⟨t, pk, rfl, h⟩ := emitReports_spec.2 o hmem
  simp [hidden_send t pk h]


section relStep
variable {si sp : Srv} (h : Rel a si sp) {i : Input} (hi : appInput a i = true)
  (hq : Instrumented.quietStep c a mode ro si i (Server.step dec (Instrumented.cfg c a mode ro) si i).2 = true)
include h hi hq

/-- one input on both sides, the plain generators first skipping by the `k` of the relation -/
theorem Rel.step : ∃ k, Rel a (Instrumented.stepWith dec c a mode ro rep si i).1
      (Server.step dec c (bumpBy k sp) i).1 ∧
    appView a i (Instrumented.stepWith dec c a mode ro rep si i).2 =
      appView a i (Server.step dec c (bumpBy k sp) i).2 := by
  obtain ⟨k, hrel⟩ := h.app
  obtain ⟨hk, ho⟩ := stepWith_sim ha hc hserved h.wi
    (noAdminCb_of_wf h.wi (hrel ▸ WF.bumpBy h.wp k)) i hi hq
  rw [hrel] at hk ho
  exact ⟨k, ⟨stepWith_wf h.wi i, (WF.bumpBy h.wp k).step dec c i, hk⟩, ho⟩

/-- an admin client's EVENT on the instrumented side only: the plain state stays -/
theorem Rel.skip (hadm : adminEventInput dec a si i = true) :
    Rel a (Instrumented.stepWith dec c a mode ro rep si i).1 sp ∧
    appView a i (Instrumented.stepWith dec c a mode ro rep si i).2 = [] := by
  obtain ⟨k, hrel⟩ := h.app
  obtain ⟨⟨k', hk⟩, ho⟩ := stepWith_sim (rep := rep) ha hc hserved h.wi
    (noAdminCb_of_wf h.wi (hrel ▸ WF.bumpBy h.wp k)) i hi hq
  obtain ⟨t, v, p, rfl, hf, harr, hty, hns⟩ := adminEventInput_inv hadm
  -- the plain server, which has no session on the admin namespace, ignores such a frame
  obtain ⟨s₀, hce, hs₀⟩ := arriving_completes (s := appPart a si) harr hty
  obtain ⟨hp1, hp2⟩ := handleEvent_plain a c si t p.nsp p.id p.data hns
  rw [step_of_completesEvent hce, hs₀ hf] at hk ho
  rw [hp1, hrel] at hk
  exact ⟨⟨stepWith_wf h.wi _, h.wp, ⟨k.sid + k'.sid, k.conn + k'.conn, k.ev + k'.ev⟩,
      hk.trans (by simp only [bumpBy, Nat.add_assoc])⟩,
    ho.trans ((hp2.filter true).resolve_right nofun)⟩

end relStep

theorem trace_sim (hist : List Input) :
    ∀ (si sp : Srv), Rel a si sp → (∀ i ∈ hist, appInput a i = true) →
      Instrumented.quiet dec c a mode ro rep si hist = true →
      ∃ skips : List Skip, skips.length = hist.length ∧
        observeTrace a (Instrumented.traceWith dec c a mode ro rep si hist).2 =
          observeTrace a (Plain.traceSkip dec c sp (skips.zip hist)).2 ∧
        appState a (Instrumented.traceWith dec c a mode ro rep si hist).1 =
          appState a (Plain.traceSkip dec c sp (skips.zip hist)).1 := by
  induction hist with
  | nil => exact fun _ _ h _ _ => ⟨[], rfl, rfl, h.appState⟩
  | cons i is ih =>
    intro si sp h happ hq
    simp only [Instrumented.quiet, Bool.and_eq_true] at hq
    obtain ⟨hi, happ'⟩ := List.forall_mem_cons.mp happ
    obtain ⟨k, h', ho⟩ := h.step ha hc hserved hi hq.1
    obtain ⟨skips, hlen, htr, hst⟩ := ih _ _ h' happ' hq.2
    refine ⟨k :: skips, by simp [hlen], ?_, hst⟩
    simp only [Instrumented.traceWith, List.zip_cons_cons, Plain.traceSkip, observeTrace,
      List.map_cons, ho]
    exact congrArg _ htr

/-- `trace_sim` against the plain server run on the history WITHOUT the admin clients' EVENT
    frames: the application side observes the same outputs, in the same order -/
theorem pruned_sim (hist : List Input) :
    ∀ (si sp : Srv), Rel a si sp → (∀ i ∈ hist, appInput a i = true) →
      Instrumented.quiet dec c a mode ro rep si hist = true →
      ∃ skips : List Skip,
        skips.length = (Instrumented.withoutAdminEvents dec c a mode ro rep si hist).length ∧
        (observeTrace a (Instrumented.traceWith dec c a mode ro rep si hist).2).flatMap (·.2) =
          (observeTrace a (Plain.traceSkip dec c sp
            (skips.zip (Instrumented.withoutAdminEvents dec c a mode ro rep si hist))).2).flatMap (·.2) ∧
        appState a (Instrumented.traceWith dec c a mode ro rep si hist).1 =
          appState a (Plain.traceSkip dec c sp
            (skips.zip (Instrumented.withoutAdminEvents dec c a mode ro rep si hist))).1 := by
  induction hist with
  | nil => exact fun _ _ h _ _ => ⟨[], rfl, rfl, h.appState⟩
  | cons i is ih =>
    intro si sp h happ hq
    simp only [Instrumented.quiet, Bool.and_eq_true] at hq
    obtain ⟨hi, happ'⟩ := List.forall_mem_cons.mp happ
    simp only [Instrumented.withoutAdminEvents, Instrumented.traceWith, observeTrace, List.map_cons,
      List.flatMap_cons]
    cases hadm : adminEventInput dec a si i with
    | true =>
      obtain ⟨h', ho⟩ := h.skip ha hc hserved hi hq.1 hadm
      obtain ⟨skips, hlen, htr, hst⟩ := ih _ _ h' happ' hq.2
      exact ⟨skips, hlen, by rw [ho]; exact htr, hst⟩
    | false =>
      obtain ⟨k, h', ho⟩ := h.step ha hc hserved hi hq.1
      obtain ⟨skips, hlen, htr, hst⟩ := ih _ _ h' happ' hq.2
      refine ⟨k :: skips, by simp [hlen], ?_, hst⟩
      simp only [Bool.false_eq_true, if_false, List.zip_cons_cons, Plain.traceSkip,
        List.map_cons, List.flatMap_cons, ho]
      exact congrArg _ htr

end trace

theorem ro_resolve_no_mutator {app : Registry} {a : Ns} {mode : Str} {ro : Bool}
    (hro : ro = true ∨ isDev mode = false) (hc : AppClear app a) (ha : a ≠ star)
    {ns : Ns} {ev : J} {args : List J} {r : Resolved}
    (h : resolve (instrumentReg app a mode ro) ns ev args = .ok r) :
    ∀ slot args', (r = .fn slot args' ∨ r = .clsCall slot args') →
      mutatorCalled a (.invoke slot args') = false := by
  have hs := resolve_shape (instrumentReg_noStar hc ha) h
  rintro slot args' (rfl | rfl)
  · obtain ⟨e, rfl, he⟩ := hs
    by_cases hns : ns = a
    · subst hns
      have : (registered mode ro).contains e = true := by
        simpa [instrumentReg, hc.fn] using he
      rw [registered_ro hro] at this
      obtain rfl : e = "connect".toList := by simpa using this
      have hm : mutators.contains "connect".toList = false := by decide
      simp only [mutatorCalled, hm, Bool.and_false]
    · simp [mutatorCalled, hns]
  · obtain ⟨m, rfl⟩ := hs
    rfl

/-- none of `outs` is the invocation of `emit / join / leave / _disconnect` of the admin namespace -/
def NoMut (a : Ns) (outs : List Out) : Prop := ∀ o ∈ outs, mutatorCalled a o = false

/-- whatever the read-only / production registry resolves an event to — on any namespace, for any
    event name and arguments — is not one of the four mutators of `a` -/
theorem unseen_ro {app : Registry} {a : Ns} {mode : Str} {ro : Bool}
    (hro : ro = true ∨ isDev mode = false) (hc : AppClear app a) (ha : a ≠ star) :
    Unseen (mutatorCalled a) (instrumentReg app a mode ro) :=
  ⟨fun o h => by cases o <;> first | rfl | exact absurd rfl (h _ _), ro_resolve_no_mutator hro hc ha⟩

theorem NoMut.append {a : Ns} {x y : List Out} (hx : NoMut a x) (hy : NoMut a y) :
    NoMut a (x ++ y) := NoOut.append hx hy

/-- **Every input, every history** (blocking `call()`s with their nested histories included): on
    a configuration whose registry resolves nothing to a mutator, no output of `Server.step` /
    `Server.run`, from any state, is the invocation of a mutator. -/
theorem step_run_noMut (dec : Str → Except Err (Packet × Nat)) {cfg : Cfg} {a : Ns}
    (hreg : Unseen (mutatorCalled a) cfg.reg) :
    (∀ (s : Srv) (i : Input), NoMut a (Server.step dec cfg s i).2) ∧
    (∀ (s : Srv) (is : List Input), NoMut a (Server.run dec cfg s is).2) :=
  ⟨fun s i => ((step_run_tame hreg dec).1 s i).1, fun s is => ((step_run_tame hreg dec).2 s is).1⟩

namespace Instrumented

/-- first half of `quiet`: no step of the history invokes a mutator -/
def noMutator (dec : Str → Except Err (Packet × Nat)) (c : Cfg) (a : Ns) (mode : Str) (ro : Bool)
    (rep : Srv → Input → List Out → List Report) : Srv → List Input → Bool
  | _, [] => true
  | s, i :: is =>
    !((Server.step dec (cfg c a mode ro) s i).2.any (mutatorCalled a)) &&
    noMutator dec c a mode ro rep (stepWith dec c a mode ro rep s i).1 is

/-- second half of `quiet`: whenever queued handlers are run (`settle`), no queued EVENT of the
    admin namespace has a handler.  (The only admin event with a handler in read-only /
    production mode is one literally named `connect`; with synchronous handlers nothing is ever
    queued.) -/
def settleQuiet (dec : Str → Except Err (Packet × Nat)) (c : Cfg) (a : Ns) (mode : Str) (ro : Bool)
    (rep : Srv → Input → List Out → List Report) : Srv → List Input → Bool
  | _, [] => true
  | s, i :: is =>
    (match i with
     | .settle => s.bg.all (fun b => b.ns != a || !handled (cfg c a mode ro).reg b)
     | _ => true) &&
    settleQuiet dec c a mode ro rep (stepWith dec c a mode ro rep s i).1 is

end Instrumented

section halves
variable (dec : Str → Except Err (Packet × Nat)) (c : Cfg) (a : Ns) (mode : Str) (ro : Bool)
  (rep : Srv → Input → List Out → List Report)

theorem quiet_eq (s : Srv) (hist : List Input) :
    Instrumented.quiet dec c a mode ro rep s hist =
      (Instrumented.noMutator dec c a mode ro rep s hist &&
        Instrumented.settleQuiet dec c a mode ro rep s hist) := by
  induction hist generalizing s with
  | nil => rfl
  | cons i is ih =>
    simp only [Instrumented.quiet, Instrumented.noMutator, Instrumented.settleQuiet,
      Instrumented.quietStep, ih]
    rw [Bool.and_assoc, Bool.and_assoc]
    exact congrArg _ (Bool.and_left_comm ..)

theorem stepWith_bgNil (hs : c.asyncHandlers = false) {s : Srv} (h : s.bg = []) (i : Input) :
    (Instrumented.stepWith dec c a mode ro rep s i).1.bg = [] := by
  simp only [Instrumented.stepWith]
  rw [emitReports_spec.1]
  -- only the queue half of the walk is wanted: take the predicate that sees nothing
  have T := step_run_tame (p := fun _ => false) (cfg := Instrumented.cfg c a mode ro)
    ⟨fun _ _ => rfl, fun _ _ _ _ => rfl⟩ dec
  exact (T.2 _ _).2 hs ((T.1 s i).2 hs h)

/-- **the second half of `quiet` holds by construction** with synchronous handlers -/
theorem settleQuiet_sync (hs : c.asyncHandlers = false) (hist : List Input) : ∀ {s : Srv}, s.bg = [] →
      Instrumented.settleQuiet dec c a mode ro rep s hist = true := by
  induction hist with
  | nil => intro s _; rfl
  | cons i is ih =>
    intro s h
    simp only [Instrumented.settleQuiet, ih (stepWith_bgNil dec c a mode ro rep hs h i), Bool.and_true]
    cases i <;> simp [h]

end halves

section ro
variable {a : Ns} {mode : Str} {ro : Bool} {c : Cfg}
  (hro : ro = true ∨ isDev mode = false) (hc : AppClear c.reg a) (ha : a ≠ star)
  {dec : Str → Except Err (Packet × Nat)} {rep : Srv → Input → List Out → List Report}
include hro hc ha

theorem icfg_unseen : Unseen (mutatorCalled a) (Instrumented.cfg c a mode ro).reg := unseen_ro hro hc ha

theorem stepWith_noMut (s : Srv) (i : Input) :
    NoMut a (Instrumented.stepWith dec c a mode ro rep s i).2 := by
  have h := (step_run_noMut dec (icfg_unseen hro hc ha)).1 s i
  rw [stepWith_noCalls s i h]
  refine h.append fun o ho => ?_
  obtain ⟨_, _, rfl, _⟩ := emitReports_spec.2 o ho
  rfl

theorem traceWith_noMut (hist : List Input) : ∀ s : Srv,
    ∀ x ∈ (Instrumented.traceWith dec c a mode ro rep s hist).2, NoMut a x.2 := by
  induction hist with
  | nil => intro s x hx; cases hx
  | cons i is ih => exact fun s => List.forall_mem_cons.mpr ⟨stepWith_noMut hro hc ha s i, ih _⟩

/-- **the first half of `quiet` holds by construction** in read-only / production mode: from any
    state, along any history -/
theorem noMutator_ro (hist : List Input) : ∀ s : Srv,
    Instrumented.noMutator dec c a mode ro rep s hist = true := by
  induction hist with
  | nil => intro s; rfl
  | cons i is ih =>
    intro s
    simp only [Instrumented.noMutator, ih, Bool.and_true, Bool.not_eq_true', List.any_eq_false,
      Bool.not_eq_true]
    exact (step_run_noMut dec (icfg_unseen hro hc ha)).1 s i

theorem quiet_ro (s : Srv) (hist : List Input) :
    Instrumented.quiet dec c a mode ro rep s hist = Instrumented.settleQuiet dec c a mode ro rep s hist := by
  rw [quiet_eq, noMutator_ro hro hc ha hist s, Bool.true_and]


/-- **One request of an admin client, in read-only / production mode, from ANY state**: the frame
    delivers an EVENT packet of the admin namespace (whatever its name and arguments).  The room
    relation and the disconnects in progress are untouched — on every namespace —, and every
    output is hidden from the application side. -/
theorem stepWith_adminEvent_ro (s : Srv) (t : Eio) (v : J) {p : Packet}
    (harr : arriving dec s t v = some p) (hty : p.type = EVENT) (hns : p.nsp.getD ['/'] = a) :
    (Instrumented.stepWith dec c a mode ro rep s (.frame t v)).1.rooms = s.rooms ∧
    (Instrumented.stepWith dec c a mode ro rep s (.frame t v)).1.pending = s.pending ∧
    Hidden a (Instrumented.stepWith dec c a mode ro rep s (.frame t v)).2 ∧
    NoMut a (Instrumented.stepWith dec c a mode ro rep s (.frame t v)).2 := by
  obtain ⟨s₀, hce, _⟩ := arriving_completes harr hty
  have e := stepWith_noCalls (rep := rep) s (.frame t v)
    ((step_run_noMut dec (icfg_unseen hro hc ha)).1 s _)
  have hst := step_of_completesEvent (cfg := Instrumented.cfg c a mode ro) hce
  have hcore := handleEvent_core (Instrumented.cfg c a mode ro) s₀ t p.nsp p.id p.data
  have hr0 : s₀.rooms = s.rooms ∧ s₀.pending = s.pending := by
    rcases hce.state with rfl | rfl <;> exact ⟨rfl, rfl⟩
  refine ⟨?_, ?_, ?_, stepWith_noMut hro hc ha s _⟩ <;> rw [e, hst]
  · exact (congrArg Srv.rooms hcore).trans hr0.1
  · exact (congrArg Srv.pending hcore).trans hr0.2
  · refine (handleEvent_admin ha hc s₀ t p.nsp p.id p.data hns).2.append fun o ho => ?_
    obtain ⟨t, pk, rfl, h⟩ := emitReports_spec.2 o ho
    exact hidden_send t pk h

/-- … and when such a request was queued (`async_handlers`) and is run later, in whatever
    state: only the position of the event script moves (an event literally named `connect` runs
    `admin_connect`), every output is hidden from the application side, none is a mutator. -/
theorem runHandler_admin_ro (s : Srv) (b : Bg) (hb : b.ns = a) :
    (∃ k, (runHandler (Instrumented.cfg c a mode ro) s b).1 = { s with nEv := s.nEv + k }) ∧
    Hidden a (runHandler (Instrumented.cfg c a mode ro) s b).2 ∧
    NoMut a (runHandler (Instrumented.cfg c a mode ro) s b).2 := by
  obtain ⟨hk, hh⟩ := runHandler_ns (Instrumented.cfg c a mode ro) (instrumentReg_noStar hc ha) s b
  rw [hb] at hh
  exact ⟨hk, hh, (runHandler_tame (icfg_unseen hro hc ha) s b).1⟩

end ro

end Sio.Admin
