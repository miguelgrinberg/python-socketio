/-
  K4 — transport loss (property C11): after `_handle_eio_disconnect` nothing of the transport is
  left; the invariant "only open transports are mentioned" along histories in which engine.io
  delivers frames of open sockets only.
-/
import Sio.Lemmas.ServerView
namespace Sio.Server
open Sio.Rooms

theorem handleDisconnect_wf_state {s : Srv} (h : WF s) (cfg : Cfg) (t : Eio) (ns : Ns)
    (reason : Str) :
    (sidOf s.rooms ns t = none ∧ handleDisconnect cfg s t ns reason = (s, [], false)) ∨
    ∃ sid k, sidOf s.rooms ns t = some sid ∧
      (handleDisconnect cfg s t ns reason).1 = ending s sid ns k := by
  unfold handleDisconnect
  split
  · rename_i hs; exact Or.inl ⟨hs, rfl⟩
  · rename_i sid hs
    rw [isConnected_of_sidOf h hs]
    obtain ⟨k, hk⟩ := endSession_state cfg s sid ns reason false
    exact Or.inr ⟨sid, k, hs, hk⟩

theorem handleDisconnect_rooms {s : Srv} (h : WF s) (cfg : Cfg) (t : Eio) (ns : Ns) (reason : Str) :
    ∀ e ∈ (handleDisconnect cfg s t ns reason).1.rooms, e ∈ s.rooms ∧ ¬ (e.ns = ns ∧ e.eio = t) := by
  intro e he
  rcases handleDisconnect_wf_state h cfg t ns reason with ⟨hs, h1⟩ | ⟨sid, k, hs, h1⟩
  · rw [h1] at he
    exact ⟨he, fun hh => h.rooms.no_entry_of_sidOf_none hs e he hh.1 hh.2⟩
  · rw [h1] at he
    simp only [ending, mgrDisconnect, Rooms.disconnect, List.mem_filter] at he
    refine ⟨he.1, fun hh => ?_⟩
    have := h.rooms.eioSid e he.1 _ (sidOf_some_mem hs) hh.1 hh.2
    simp only at this
    simp [hh.1, this] at he

theorem lostGo_rooms {s : Srv} (h : WF s) (cfg : Cfg) (t : Eio) (reason : Str) (outs : List Out)
    (nss : List Ns) :
    ∀ e ∈ (handleLost.go cfg t reason s outs nss).1.rooms, e ∈ s.rooms ∧ (e.eio = t → e.ns ∉ nss) := by
  induction nss generalizing s outs with
  | nil => intro e he; exact ⟨he, fun _ => by simp⟩
  | cons ns rest ih =>
    unfold handleLost.go
    intro e he
    obtain ⟨h1, h2⟩ := ih (h.handleDisconnect cfg t ns reason) _ e he
    obtain ⟨h3, h4⟩ := handleDisconnect_rooms h cfg t ns reason e h1
    refine ⟨h3, fun ht => ?_⟩
    simp only [List.mem_cons, not_or]
    exact ⟨fun hn => h4 ⟨hn, ht⟩, h2 ht⟩

theorem view_lostGo {s : Srv} (h : WF s) (cfg : Cfg) (t : Eio) (reason : Str) (nss : List Ns) :
    view t (handleLost.go cfg t reason s [] nss).1 = view t s :=
  lostGo_rel (R := fun a b _ => view t b = view t a) (fun _ => rfl) (fun h1 h2 => h2.trans h1)
    (fun _ ns h => view_handleDisconnect h cfg t ns reason) h nss

theorem not_onT_of_no_entry {r : Rooms.St} {t : Eio} (h : ∀ e ∈ r, e.eio ≠ t) (sid : Sid) :
    onT r t sid = false := by
  rw [Bool.eq_false_iff]
  intro hc
  obtain ⟨e, he, _, h2⟩ := onT_iff.mp hc
  exact h e he h2

theorem filter_onT_self {α : Type} {r : Rooms.St} {t : Eio} (h : ∀ e ∈ r, e.eio ≠ t)
    (l : List α) (f : α → Sid) : l.filter (fun c => !onT r t (f c)) = l := by
  rw [List.filter_eq_self]
  intro c _
  simp [not_onT_of_no_entry h]

/-- the state after the loss of an open transport, field by field (`eraseTransport`) -/
structure Erased (t : Eio) (s s' : Srv) : Prop where
  rooms : s'.rooms = s.rooms.filter (fun e => e.eio != t)
  pending : s'.pending = []
  cbs : s'.cbs = s.cbs.filter (fun c => !onT s.rooms t c.1)
  ctr : s'.ctr = s.ctr.filter (fun c => !onT s.rooms t c.1)
  environ : s'.environ = s.environ.filter (· != t)
  socks : s'.socks = s.socks.filter (· != t)
  binbuf : s'.binbuf = s.binbuf.filter (fun e => e.1 != t)
  sess : s'.sess = s.sess.filter (fun e => e.1 != t)

theorem erased_handleLost {s : Srv} (h : WF s) (cfg : Cfg) {t : Eio} (ht : t ∈ s.socks)
    (reason : Str) : Erased t s (handleLost cfg s t reason).1 := by
  rw [handleLost_eq]
  have hc : s.socks.contains t = true := List.contains_iff_mem.mpr ht
  simp only [hc, Bool.not_true, Bool.false_eq_true, if_false]
  generalize hg : (handleLost.go cfg t reason s [] (namespacesOf s.rooms)).1 = g
  have hw : WF g := hg ▸ h.lostGo cfg t reason _
  have hv : view t g = view t s := hg ▸ view_lostGo h cfg t reason _
  have hno : ∀ e ∈ g.rooms, e.eio ≠ t := by
    intro e he heq
    rw [← hg] at he
    obtain ⟨h1, h2⟩ := lostGo_rooms h cfg t reason [] _ e he
    exact h2 heq (List.mem_eraseDups.mpr (List.mem_map.mpr ⟨e, h1, rfl⟩))
  have hself : g.rooms.filter (fun e => e.eio != t) = g.rooms := by
    rw [List.filter_eq_self]; intro e he; simp [hno e he]
  obtain ⟨v1, v2, v3, v4, v6, v7, v5⟩ := view_fields hv
  rw [hself] at v1
  rw [filter_onT_self hno] at v2 v3
  exact ⟨v1, hw.pendingNil, v2, v3, by simp only [dropTransport, v4],
    by simp only [dropTransport, v5], v6, v7⟩

theorem handleLost_closed (cfg : Cfg) {s : Srv} {t : Eio} (ht : t ∉ s.socks) (reason : Str) :
    handleLost cfg s t reason = (s, []) := by
  rw [handleLost_eq]
  simp [ht]

/-- every transport that rooms or the reassembly buffer mention is open (sessions and `environ`
    are covered by `WF`) -/
structure Open (s : Srv) : Prop where
  rooms : ∀ e ∈ s.rooms, e.eio ∈ s.socks
  binbuf : ∀ e ∈ s.binbuf, e.1 ∈ s.socks

theorem Open.init : Open {} := ⟨by simp, by simp⟩

theorem Open.of_sub {s s' : Srv} (h : Open s) (h1 : ∀ e ∈ s'.rooms, ∃ e' ∈ s.rooms, e'.eio = e.eio)
    (h2 : ∀ e ∈ s'.binbuf, e ∈ s.binbuf) (h3 : ∀ t ∈ s.socks, t ∈ s'.socks) : Open s' :=
  ⟨fun e he => by obtain ⟨e', he', hq⟩ := h1 e he; exact h3 _ (hq ▸ h.rooms e' he'),
   fun e he => h3 _ (h.binbuf e (h2 e he))⟩

theorem Open.frame {s : Srv} (ho : Open s) (h : WF s) (dec : Str → Except Err (Packet × Nat))
    (cfg : Cfg) {t : Eio} (ht : t ∈ s.socks) (v : J) : Open (handleFrame dec cfg s t v).1 := by
  obtain ⟨v1, _, _, _, v6, _, v5⟩ := view_fields (view_handleFrame h dec cfg t v)
  constructor
  · intro e he
    rw [v5]
    by_cases heq : e.eio = t
    · rw [heq]; exact ht
    · have : e ∈ (handleFrame dec cfg s t v).1.rooms.filter (fun e => e.eio != t) :=
        List.mem_filter.mpr ⟨he, by simp [heq]⟩
      rw [v1] at this
      exact ho.rooms e (List.mem_filter.mp this).1
  · intro e he
    rw [v5]
    by_cases heq : e.1 = t
    · rw [heq]; exact ht
    · have : e ∈ (handleFrame dec cfg s t v).1.binbuf.filter (fun e => e.1 != t) :=
        List.mem_filter.mpr ⟨he, by simp [heq]⟩
      rw [v6] at this
      exact ho.binbuf e (List.mem_filter.mp this).1

theorem Open.lost {s : Srv} (ho : Open s) (h : WF s) (cfg : Cfg) (t : Eio) (reason : Str) :
    Open (handleLost cfg s t reason).1 := by
  by_cases ht : t ∈ s.socks
  · have he := erased_handleLost h cfg ht reason
    constructor
    · intro e hm
      rw [he.rooms] at hm
      rw [he.socks]
      exact List.mem_filter.mpr ((List.mem_filter.mp hm).imp_left (ho.rooms e))
    · intro e hm
      rw [he.binbuf] at hm
      rw [he.socks]
      exact List.mem_filter.mpr ((List.mem_filter.mp hm).imp_left (ho.binbuf e))
  · rw [handleLost_closed cfg ht]; exact ho

/-- fields that `emit` never touches -/
structure Keeps (s s' : Srv) : Prop where
  rooms : s'.rooms = s.rooms
  binbuf : s'.binbuf = s.binbuf
  socks : s'.socks = s.socks
  sess : s'.sess = s.sess
  environ : s'.environ = s.environ
  pending : s'.pending = s.pending
  nextSid : s'.nextSid = s.nextSid

theorem Open.keeps {s s' : Srv} (h : Open s) (k : Keeps s s') : Open s' :=
  ⟨by rw [k.rooms, k.socks]; exact h.rooms, by rw [k.binbuf, k.socks]; exact h.binbuf⟩

theorem emit_keeps (s : Srv) (ev : Str) (d : Data) (ns : Ns) (to : Target) (skip : List Sid)
    (cb : Option CbTok) : Keeps s (emit s ev d ns to skip cb).1 := by
  rw [emit_state]; exact ⟨rfl, rfl, rfl, rfl, rfl, rfl, rfl⟩

theorem callStart_keeps (s : Srv) (ev : Str) (d : Data) (ns : Ns) (sid : Sid) :
    Keeps s (callStart s ev d ns sid).1 := by
  unfold callStart; rw [emit_state]; exact ⟨rfl, rfl, rfl, rfl, rfl, rfl, rfl⟩

theorem sessSet_same (s : Srv) (t : Eio) (ns : Ns) (v : J) :
    (sessSet s t ns v).rooms = s.rooms ∧ (sessSet s t ns v).binbuf = s.binbuf ∧
    (sessSet s t ns v).socks = s.socks := by
  unfold sessSet; split <;> exact ⟨rfl, rfl, rfl⟩

theorem Open.sessSet {s : Srv} (ho : Open s) (t : Eio) (ns : Ns) (v : J) : Open (sessSet s t ns v) := by
  unfold Server.sessSet; split <;> exact ⟨ho.rooms, ho.binbuf⟩

theorem drain_core (cfg : Cfg) (s : Srv) (outs : List Out) (bs : List Bg) :
    core (step.drain cfg s outs bs).1 = core s := by
  induction bs generalizing s outs with
  | nil => rfl
  | cons b rest ih =>
    unfold step.drain
    rw [ih, runHandler_core]

/-- engine.io delivers frames of open sockets only: the histories the "fresh" claim is about -/
inductive Adm (dec : Str → Except Err (Packet × Nat)) (cfg : Cfg) : Srv → List Input → Prop where
  | nil {s : Srv} : Adm dec cfg s []
  | frame {s : Srv} {t : Eio} {v : J} {is : List Input} : t ∈ s.socks →
      Adm dec cfg (step dec cfg s (.frame t v)).1 is → Adm dec cfg s (.frame t v :: is)
  | call {s : Srv} {ev : Str} {d : Data} {ns : Ns} {sid : Sid} {during is : List Input} :
      (cfg.asyncHandlers = true → Adm dec cfg (callStart s ev d ns sid).1 during) →
      Adm dec cfg (step dec cfg s (.call ev d ns sid during)).1 is →
      Adm dec cfg s (.call ev d ns sid during :: is)
  | other {s : Srv} {i : Input} {is : List Input} : (∀ t v, i ≠ .frame t v) →
      (∀ ev d ns sid during, i ≠ .call ev d ns sid during) →
      Adm dec cfg (step dec cfg s i).1 is → Adm dec cfg s (i :: is)

theorem Open.step_other {s : Srv} (ho : Open s) (h : WF s) (dec : Str → Except Err (Packet × Nat))
    (cfg : Cfg) {i : Input} (h1 : ∀ t v, i ≠ .frame t v)
    (h2 : ∀ ev d ns sid during, i ≠ .call ev d ns sid during) : Open (step dec cfg s i).1 := by
  -- entries are only removed
  have hsub : ∀ {s' : Srv}, (∀ e ∈ s'.rooms, e ∈ s.rooms) → s'.binbuf = s.binbuf → s'.socks = s.socks →
      Open s' := fun hr hb hs =>
    ho.of_sub (fun e he => ⟨e, hr e he, rfl⟩) (fun e he => hb ▸ he) (fun t ht => hs ▸ ht)
  cases i with
  | frame t v => exact absurd rfl (h1 t v)
  | call ev d ns sid during => exact absurd rfl (h2 ev d ns sid during)
  | eioConnect t =>
    rw [step]
    exact ho.of_sub (fun e he => ⟨e, he, rfl⟩) (fun e he => he) (fun t' ht' => List.mem_append_left _ ht')
  | eioLost t r => rw [step]; exact ho.lost h cfg t r
  | emit ev d ns to skip cb => rw [step]; exact ho.keeps (emit_keeps ..)
  | apiDisconnect sid ns =>
    rw [step]; unfold apiDisconnect
    split
    · exact ho
    · obtain ⟨k, hk⟩ := endSession_state cfg s sid ns "server disconnect".toList true
      rw [hk]
      exact hsub (fun e he => (List.mem_filter.mp he).1) rfl rfl
  | enterRoom sid ns room =>
    rw [step]
    split
    · rename_i r he
      obtain ⟨eio, hq, hm⟩ := mem_enter he
      refine ho.of_sub ?_ (fun e he => he) (fun t ht => ht)
      intro e hm'
      rcases (hm e).mp hm' with h3 | rfl
      · exact ⟨e, h3, rfl⟩
      · exact ⟨_, eioOf_some_mem hq, rfl⟩
    · exact ho
  | leaveRoom sid ns room | closeRoom ns room =>
    rw [step]; exact hsub (fun e he => (List.mem_filter.mp he).1) rfl rfl
  | rooms sid ns => rw [step]; exact ho
  | getSession sid ns =>
    rw [step]
    split
    · exact ho
    · split
      · exact ho
      · exact ho.sessSet ..
  | saveSession sid ns v | sessionBlock sid ns k v =>
    rw [step]
    split
    · exact ho
    · exact ho.sessSet ..
  | settle =>
    rw [step]
    have hc := core_fields (drain_core cfg { s with bg := [] } [] s.bg)
    exact hsub (fun e he => hc.rooms ▸ he) hc.binbuf hc.socks

theorem Open.run {dec : Str → Except Err (Packet × Nat)} {cfg : Cfg} {s : Srv} {is : List Input}
    (ha : Adm dec cfg s is) (ho : Open s) (h : WF s) : Open (run dec cfg s is).1 := by
  induction ha with
  | nil => rw [run_nil]; exact ho
  | @frame s t v is ht _ ih =>
    rw [run_cons]
    have h1 : Open (step dec cfg s (.frame t v)).1 := by rw [step]; exact ho.frame h dec cfg ht v
    exact ih h1 (h.step dec cfg _)
  | @call s ev d ns sid during is _ _ ih1 ih2 =>
    rw [run_cons]
    refine ih2 ?_ (h.step dec cfg _)
    rw [step_call]
    split
    · exact ho
    · rename_i hc
      exact ih1 (by simpa using hc) (ho.keeps (callStart_keeps ..)) (h.callStart ev d ns sid)
  | other h1 h2 _ ih =>
    rw [run_cons]
    exact ih (ho.step_other h dec cfg h1 h2) (h.step dec cfg _)

end Sio.Server
