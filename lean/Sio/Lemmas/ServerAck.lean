/-
  K4 — acknowledgements of server-initiated events (property C06): which frames complete an ACK,
  when a callback fires, and that nothing else fires one.
-/
import Sio.Lemmas.ServerOut
namespace Sio.Server
open Sio.Rooms

theorem handleFrame_of_completesAck {dec : Str → Except Err (Packet × Nat)} (cfg : Cfg) {s s₀ : Srv}
    {t : Eio} {v : J} {nsp : Option Str} {id : Option Nat} {data : Option J}
    (h : CompletesAck dec s t v nsp id data s₀) :
    handleFrame dec cfg s t v = handleAck s₀ t nsp id data := by
  cases h with
  | text hf hd ht =>
    rw [handleFrame_text dec cfg hf, hd]
    unfold dispatchPacket
    simp [ht, ACK, CONNECT, DISCONNECT, EVENT]
  | binary hf h1 h2 h3 h4 => rw [handleFrame_last dec cfg hf h1 h2 h3, if_neg h4]

theorem CompletesAck.state {dec : Str → Except Err (Packet × Nat)} {s s₀ : Srv} {t : Eio} {v : J}
    {nsp : Option Str} {id : Option Nat} {data : Option J}
    (h : CompletesAck dec s t v nsp id data s₀) : s₀ = s ∨ s₀ = dropBin s t := by
  cases h with
  | text => exact Or.inl rfl
  | binary => exact Or.inr rfl

theorem CompletesAck.same {dec : Str → Except Err (Packet × Nat)} {s s₀ : Srv} {t : Eio} {v : J}
    {nsp : Option Str} {id : Option Nat} {data : Option J}
    (h : CompletesAck dec s t v nsp id data s₀) :
    s₀.rooms = s.rooms ∧ s₀.cbs = s.cbs ∧ s₀.callDone = s.callDone := by
  rcases h.state with rfl | rfl <;> exact ⟨rfl, rfl, rfl⟩

/-- the callback `n` fires with `args`: frame `v` from `t` in state `s` completes an ACK for an
    id that is outstanding for the session `t` has on that namespace; the entry is popped -/
def Fires (dec : Str → Except Err (Packet × Nat)) (cfg : Cfg) (s : Srv) (t : Eio) (v : J)
    (n : Nat) (args : List J) : Prop :=
  ∃ nsp id data s₀ sid i, CompletesAck dec s t v nsp id data s₀ ∧
    sidOf s.rooms (nsp.getD ['/']) t = some sid ∧ id = some i ∧
    (sid, i, CbTok.user n) ∈ s.cbs ∧ starArgs data = .ok args ∧
    handleFrame dec cfg s t v = (popCb s₀ sid i, [.callback n args])

/-- What a frame does to the callbacks: none is called and no `call()` result is delivered, or the
    frame completes an ACK for an id that is outstanding for the session the transport has on that
    namespace — then `r` is the result of `_handle_ack` popping that entry. -/
def FrameAck (dec : Str → Except Err (Packet × Nat)) (s : Srv) (t : Eio) (v : J)
    (r : Srv × List Out) : Prop :=
  ((WF s → ∀ n args, Out.callback n args ∉ r.2) ∧ r.1.callDone = s.callDone) ∨
  ∃ nsp id data s₀ sid i tok, CompletesAck dec s t v nsp id data s₀ ∧
    sidOf s.rooms (nsp.getD ['/']) t = some sid ∧ id = some i ∧ (sid, i, tok) ∈ s.cbs ∧
    r = match starArgs data, tok with
      | .error e, _ => (popCb s₀ sid i, [.raised e])
      | .ok args, .user n => (popCb s₀ sid i, [.callback n args])
      | .ok args, .call n => ({ popCb s₀ sid i with callDone := s.callDone ++ [(n, args)] }, [])

theorem frameAck (dec : Str → Except Err (Packet × Nat)) (cfg : Cfg) (s : Srv) (t : Eio) (v : J) :
    FrameAck dec s t v (handleFrame dec cfg s t v) := by
  have ack : ∀ {nsp id data s₀}, CompletesAck dec s t v nsp id data s₀ →
      FrameAck dec s t v (handleAck s₀ t nsp id data) := by
    intro nsp id data s₀ hc
    obtain ⟨hr, hcb, hd⟩ := hc.same
    rcases handleAck_cases s₀ t nsp id data with h | ⟨sid, i, tok, hs, hi, hm, h⟩
    · rw [h]; exact Or.inl ⟨fun _ _ _ hm => (nomatch hm), hd⟩
    · exact Or.inr ⟨nsp, id, data, s₀, sid, i, tok, hc, hr ▸ hs, hi, hcb ▸ hm, hd ▸ h⟩
  -- the other handlers send to `t`, invoke handlers and raise, and leave `callDone` alone
  have other : ∀ {r : Srv × List Out} {ok}, (WF s → ∀ o ∈ r.2, o.confined t ok) →
      r.1.callDone = s.callDone → FrameAck dec s t v r :=
    fun ho hd => Or.inl ⟨fun hw _ _ hm => ho hw _ hm, hd⟩
  have raised : ∀ (s' : Srv) (l : List Err), s'.callDone = s.callDone →
      FrameAck dec s t v (s', l.map .raised) := fun s' l hd =>
    other (ok := fun _ => True) (fun _ o ho => by obtain ⟨_, _, rfl⟩ := List.mem_map.mp ho; trivial) hd
  have core : ∀ {s₀ : Srv} {nsp id d}, s₀.callDone = s.callDone →
      (handleEvent cfg s₀ t nsp id d).1.callDone = s.callDone :=
    fun hd => (core_fields (handleEvent_core ..)).callDone.trans hd
  refine frame_cases (motive := FrameAck dec s t v) (fun e => raised s [e] rfl)
    (fun o _ ho => other (ok := fun _ => True) (fun _ x hx => by obtain ⟨_, rfl⟩ := ho x hx; trivial) rfl)
    ?_ ack ?_ ?_ (fun _ _ _ => raised _ [] rfl)
  · intro nsp id d s₀ hc
    have hr : s₀.rooms = s.rooms ∧ s₀.callDone = s.callDone := by cases hc <;> exact ⟨rfl, rfl⟩
    exact other (fun _ => hr.1 ▸ handleEvent_outs _ _ _ _ _ _) (core hr.2)
  · intro nsp d
    refine other (fun _ => handleConnect_outs _ _ _ _ _) ?_
    rcases handleConnect_state cfg s t nsp d with h1 | ⟨_, _, _, _, h1 | ⟨_, _, h1⟩⟩ <;>
      rw [h1] <;> rfl
  · intro ns
    refine other (fun hw => handleDisconnect_outs hw _ _ _ _) ?_
    rcases handleDisconnect_state cfg s t ns "client disconnect".toList with
      ⟨h1, _⟩ | ⟨_, _, _, _, h1⟩ <;> rw [h1] <;> rfl

theorem fires_of_frame {dec : Str → Except Err (Packet × Nat)} {cfg : Cfg} {s : Srv} (hw : WF s)
    {t : Eio} {v : J} {n : Nat} {args : List J}
    (hm : Out.callback n args ∈ (handleFrame dec cfg s t v).2) : Fires dec cfg s t v n args := by
  rcases frameAck dec cfg s t v with ⟨h, _⟩ | ⟨nsp, id, data, s₀, sid, i, tok, hc, hs, hi, hcb, h⟩
  · exact absurd hm (h hw n args)
  · rw [h] at hm
    cases ha : starArgs data with
    | error e => rw [ha] at hm; cases List.mem_singleton.mp hm
    | ok a =>
      rw [ha] at hm h
      cases tok with
      | user k => cases List.mem_singleton.mp hm; exact ⟨nsp, id, data, s₀, sid, i, hc, hs, hi, hcb, ha, h⟩
      | call k => cases hm

theorem handleAck_inert {s : Srv} {t : Eio} {nsp : Option Str} {id : Option Nat} {data : Option J}
    (h : ∀ sid i, sidOf s.rooms (nsp.getD ['/']) t = some sid → id = some i →
      ∀ tok, (sid, i, tok) ∉ s.cbs) : handleAck s t nsp id data = (s, []) := by
  rcases handleAck_cases s t nsp id data with h1 | ⟨sid, i, tok, hs, hi, hm, _⟩
  · exact h1
  · exact absurd hm (h sid i hs hi tok)

/-- frame `v` from `t` is handled in state `s₀` during the history `is` started in `s`
    (at top level, or inside the wait of a `call()`) -/
inductive FrameAt (dec : Str → Except Err (Packet × Nat)) (cfg : Cfg) :
    Srv → List Input → Srv → Eio → J → Prop where
  | here {s : Srv} {t : Eio} {v : J} {is : List Input} : FrameAt dec cfg s (.frame t v :: is) s t v
  | later {s s₀ : Srv} {i : Input} {is : List Input} {t : Eio} {v : J} :
      FrameAt dec cfg (step dec cfg s i).1 is s₀ t v → FrameAt dec cfg s (i :: is) s₀ t v
  | inCall {s s₀ : Srv} {ev : Str} {d : Data} {ns : Ns} {sid : Sid} {during is : List Input}
      {t : Eio} {v : J} : cfg.asyncHandlers = true →
      FrameAt dec cfg (callStart s ev d ns sid).1 during s₀ t v →
      FrameAt dec cfg s (.call ev d ns sid during :: is) s₀ t v

theorem lostGo_outs {s : Srv} (h : WF s) (cfg : Cfg) (t : Eio) (reason : Str) (nss : List Ns)
    (P : Out → Prop) (hP : ∀ o, o.confined t (fun _ => True) → P o) :
    ∀ o ∈ (handleLost.go cfg t reason s [] nss).2, P o :=
  lostGo_rel (R := fun _ _ l => ∀ o ∈ l, P o) (fun _ _ ho => nomatch ho)
    (fun h1 h2 => List.forall_mem_append.mpr ⟨h1, h2⟩)
    (fun _ ns h o hm => hP o ((handleDisconnect_outs h cfg t ns reason o hm).mono (fun _ _ => trivial)))
    h nss

theorem drain_outs (cfg : Cfg) (s : Srv) (outs : List Out) (bs : List Bg) (P : Out → Prop)
    (hP : ∀ t o, o.confined t (fun _ => True) → P o) (ho : ∀ o ∈ outs, P o) :
    ∀ o ∈ (step.drain cfg s outs bs).2, P o := by
  induction bs generalizing s outs with
  | nil => exact ho
  | cons b rest ih =>
    unfold step.drain
    apply ih
    rw [List.forall_mem_append]
    exact ⟨ho, fun o hm => hP _ o ((runHandler_outs cfg s b o hm).mono (fun _ _ => trivial))⟩

theorem emitFold_outs (ns : Ns) (payload : List J) (tok : CbTok) (s : Srv) (o : List Out)
    (rs : List (Sid × Eio)) (P : Out → Prop) (hP : ∀ t p, P (.send t p)) (ho : ∀ x ∈ o, P x) :
    ∀ x ∈ (rs.foldl (emitOne ns payload tok) (s, o)).2, P x := by
  induction rs generalizing s o with
  | nil => exact ho
  | cons r rs ih =>
    simp only [List.foldl_cons]
    apply ih
    rw [List.forall_mem_append]
    refine ⟨ho, fun x hx => ?_⟩
    obtain ⟨t', _, _, rfl⟩ := mem_sendTo hx
    exact hP _ _

theorem emit_outs (s : Srv) (ev : Str) (d : Data) (ns : Ns) (to : Target) (skip : List Sid)
    (cb : Option CbTok) (P : Out → Prop) (hP : ∀ t p, P (.send t p)) :
    ∀ x ∈ (emit s ev d ns to skip cb).2, P x := by
  cases cb with
  | none =>
    unfold emit
    split
    · simp
    · dsimp only
      intro x hx
      simp only [List.mem_flatMap] at hx
      obtain ⟨r, _, hx⟩ := hx
      obtain ⟨t', _, _, rfl⟩ := mem_sendTo hx
      exact hP _ _
  | some tok =>
    rw [emit_cb_eq]
    split
    · simp
    · exact emitFold_outs ns _ tok s [] _ P hP (by simp)

theorem callStart_callDone (s : Srv) (ev : Str) (d : Data) (ns : Ns) (sid : Sid) :
    (callStart s ev d ns sid).1.callDone = s.callDone := by
  unfold callStart; rw [emit_state]

theorem FrameAt.of_single {dec : Str → Except Err (Packet × Nat)} {cfg : Cfg} {s s₀ : Srv}
    {i : Input} {t : Eio} {v : J} (h : FrameAt dec cfg s [i] s₀ t v) (is : List Input) :
    FrameAt dec cfg s (i :: is) s₀ t v := by
  cases h with
  | here => exact .here
  | later h' => cases h'
  | inCall ha h' => exact .inCall ha h'

def Out.isCb : Out → Prop
  | .callback _ _ => True
  | _ => False

theorem not_isCb_of_confined {t : Eio} {ok : List J → Prop} {o : Out} (h : o.confined t ok) :
    ¬ o.isCb := by
  cases o <;> simp_all [Out.confined, Out.isCb]

theorem no_cb_other {dec : Str → Except Err (Packet × Nat)} {cfg : Cfg} {s : Srv} (hw : WF s)
    {i : Input} (h1 : ∀ ev d ns sid during, i ≠ .call ev d ns sid during)
    (h2 : ∀ t v, i ≠ .frame t v) : ∀ o ∈ (step dec cfg s i).2, ¬ o.isCb := by
  have nil : ∀ o ∈ ([] : List Out), ¬ o.isCb := fun _ ho => nomatch ho
  have one : ∀ {x : Out}, ¬ x.isCb → ∀ o ∈ [x], ¬ o.isCb :=
    fun hx o ho => List.mem_singleton.mp ho ▸ hx
  cases i with
  | frame t v => exact absurd rfl (h2 t v)
  | eioLost t r =>
    rw [step, handleLost_eq]
    split
    · exact nil
    · exact lostGo_outs hw cfg t r _ _ (fun o ho => not_isCb_of_confined ho)
  | emit ev d ns to skip cb =>
    rw [step]; exact emit_outs _ _ _ _ _ _ _ (fun o => ¬ o.isCb) (fun _ _ h => h)
  | call ev d ns sid during => exact absurd rfl (h1 ev d ns sid during)
  | apiDisconnect sid ns =>
    rw [step]; unfold apiDisconnect
    cases hc : isConnected s sid ns with
    | false => exact nil
    | true =>
      obtain ⟨t, ht⟩ := isConnected_eioOf hc
      exact fun o ho => not_isCb_of_confined (endSession_outs cfg s sid ns _ true ht o ho)
  | enterRoom sid ns room =>
    rw [step]
    cases Rooms.enter s.rooms ns sid room with
    | error e => exact one id
    | ok r => exact nil
  | eioConnect t | leaveRoom sid ns room | closeRoom ns room => rw [step]; exact nil
  | rooms sid ns => rw [step]; exact one id
  | getSession sid ns =>
    rw [step]
    cases sessSock s sid ns with
    | none => exact one id
    | some t => dsimp only; cases sessGet s t ns <;> exact one id
  | saveSession sid ns v =>
    rw [step]
    cases sessSock s sid ns with
    | none => exact one id
    | some t => exact nil
  | sessionBlock sid ns k v => rw [step]; cases sessSock s sid ns <;> exact one id
  | settle =>
    rw [step]
    exact drain_outs cfg _ [] _ _ (fun _ o ho => not_isCb_of_confined ho) nil

theorem callback_source (dec : Str → Except Err (Packet × Nat)) (cfg : Cfg) :
    (∀ (s : Srv) (i : Input), WF s → ∀ n args, Out.callback n args ∈ (step dec cfg s i).2 →
      ∃ s₀ t v, FrameAt dec cfg s [i] s₀ t v ∧ WF s₀ ∧ Fires dec cfg s₀ t v n args) ∧
    (∀ (s : Srv) (is : List Input), WF s → ∀ n args, Out.callback n args ∈ (run dec cfg s is).2 →
      ∃ s₀ t v, FrameAt dec cfg s is s₀ t v ∧ WF s₀ ∧ Fires dec cfg s₀ t v n args) := by
  refine step_run_induct dec cfg _ _ ?_ ?_ ?_ ?_
  · intro s i hi hw n args hm
    by_cases hf : ∃ t v, i = .frame t v
    · obtain ⟨t, v, rfl⟩ := hf
      rw [step] at hm
      exact ⟨s, t, v, .here, hw, fires_of_frame hw hm⟩
    · exact absurd trivial (no_cb_other hw hi (fun t v h => hf ⟨t, v, h⟩) _ hm)
  · intro s ev d ns sid during ih hw n args hm
    rw [step_call] at hm
    split at hm
    · simp at hm
    · rename_i hc
      have ha : cfg.asyncHandlers = true := by simpa using hc
      simp only [List.mem_append, List.mem_singleton] at hm
      rcases hm with (hm | hm) | hm
      · exact absurd trivial (emit_outs _ _ _ _ _ _ _ (fun o => ¬ o.isCb) (fun _ _ h => h) _ hm)
      · obtain ⟨s₀, t, v, h1, h2, h3⟩ := ih ha (hw.callStart ev d ns sid) n args hm
        exact ⟨s₀, t, v, .inCall ha h1, h2, h3⟩
      · unfold callOutcome at hm; split at hm <;> cases hm
  · intro s hw n args hm; rw [run_nil] at hm; cases hm
  · intro s i is h1 h2 hw n args hm
    rw [run_cons] at hm
    simp only [List.mem_append] at hm
    rcases hm with hm | hm
    · obtain ⟨s₀, t, v, a, b, c⟩ := h1 hw n args hm
      exact ⟨s₀, t, v, a.of_single is, b, c⟩
    · obtain ⟨s₀, t, v, a, b, c⟩ := h2 (hw.step dec cfg i) n args hm
      exact ⟨s₀, t, v, .later a, b, c⟩

end Sio.Server
