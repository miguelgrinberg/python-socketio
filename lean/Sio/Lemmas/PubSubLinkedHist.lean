/-
  `HistOk` follows from "the session ids of the `connect`s are pairwise distinct (and new)" plus
  "every emit with a callback addresses a personal room with nobody but its owner in it".
-/
import Sio.Lemmas.PubSubLinkedOps
namespace Sio.PubSub
open Sio.Rooms

/-- the session ids that the `connect`s of a history bring -/
def connSids : List Op → List Sid
  | [] => []
  | .connect _ _ _ sid :: ops => sid :: connSids ops
  | _ :: ops => connSids ops

/-- `HistOpOk` without the freshness clause -/
def CbOpOk (s : Single) : Op → Prop
  | .connect .. => True
  | op => HistOpOk s op

/-- at the moment of every emit with a callback, on the reference server, the addressed personal
    room holds nobody but its owner -/
def CbPersonal (s : Single) : List Op → Prop
  | [] => True
  | op :: ops => CbOpOk s op ∧ CbPersonal (s.step op).1 ops

instance (s : Single) (op : Op) : Decidable (CbOpOk s op) := by
  cases op <;> unfold CbOpOk <;> infer_instance

instance : (s : Single) → (ops : List Op) → Decidable (CbPersonal s ops)
  | _, [] => isTrue trivial
  | s, op :: ops =>
    have := instDecidableCbPersonal (s.step op).1 ops
    (inferInstance : Decidable (CbOpOk s op ∧ CbPersonal (s.step op).1 ops))

theorem askedIn_sendCb (cb : Cb) (ns : Ns) (ev : J) (args : List J) (h : Host) (l : List (Sid × Eio))
    (a : Sid × Nat) (ha : a ∈ askedIn (sendCb cb ns ev args h l).2) : a.1 ∈ l.map Prod.fst := by
  induction l generalizing h with
  | nil => cases ha
  | cons p ps ih =>
    simp only [sendCb, askedIn, List.mem_cons] at ha
    rcases ha with rfl | ha
    · simp
    · exact List.mem_cons_of_mem _ (ih _ ha)

theorem askedIn_emitLocal (h : Host) (ns : Ns) (t : Target) (skip : List Sid) (ev : J) (args : List J)
    (cb : Option Cb) (a : Sid × Nat) (ha : a ∈ askedIn (emitLocal h ns t skip ev args cb).2) :
    ∃ e ∈ h.rooms, e.sid = a.1 := by
  cases cb with
  | none => rw [(emitLocal_none_host h ns t skip ev args).2.2] at ha; cases ha
  | some c =>
    unfold emitLocal at ha
    split at ha
    · cases ha
    · obtain ⟨p, hp, hpa⟩ := List.mem_map.mp (askedIn_sendCb c ns ev args h _ a ha)
      obtain ⟨room, he⟩ := mem_participants (List.mem_filter.mp hp).1
      exact ⟨_, he, hpa⟩

theorem single_asked_sid (s : Single) (op : Op) (a : Sid × Nat) (ha : a ∈ askedIn (s.step op).2) :
    ∃ e ∈ s.srv.rooms, e.sid = a.1 := by
  cases op with
  | enter via ns sid room =>
    have : askedIn (s.step (.enter via ns sid room)).2 = [] := (singleEnter_obs s.srv ns sid room).2.2
    rw [this] at ha; cases ha
  | emit via ev d ns to skip cb => exact askedIn_emitLocal s.srv ns to skip.toList (.str ev) d.pack _ a ha
  | disconnect via ns sid =>
    have ha' : a ∈ askedIn (localDisconnect s.srv sid ns).outs := ha
    rw [(localDisconnect_single s.srv sid ns).2.1] at ha'; cases ha'
  | ack ns sid n args =>
    rw [(single_ack_obs (s := s) ns sid n args).2.2] at ha; cases ha
  | connect | leave | close | deliver | drain => cases ha

theorem histOk_of_fresh (s : Single) (hinv : Inv s.srv.rooms) (ops : List Op)
    (hnd : (connSids ops).Nodup)
    (hnew : ∀ x ∈ connSids ops, (∀ e ∈ s.srv.rooms, e.sid ≠ x) ∧ ∀ a ∈ s.asked, a.1 ≠ x)
    (hcb : CbPersonal s ops) : HistOk s ops := by
  induction ops generalizing s with
  | nil => trivial
  | cons op ops ih =>
    have hop : HistOpOk s op := by
      cases op with
      | connect hid ns eio sid => exact hnew sid List.mem_cons_self
      | _ => exact hcb.1
    have hsub : (connSids ops).Sublist (connSids (op :: ops)) := by
      cases op <;> first | exact .refl _ | exact List.sublist_cons_self _ _
    have hrooms := single_step_rooms (s := s) hinv op
    refine ⟨hop, ih (s.step op).1 (by rw [hrooms]; exact inv_singleRooms hinv op) (hnd.sublist hsub) ?_ hcb.2⟩
    intro x hx
    refine ⟨?_, ?_⟩
    · intro e he
      rw [hrooms] at he
      rcases mem_singleRooms he with ⟨e', he', _, hs'⟩ | ⟨hid, ns, eio, sid, rfl, _, hs'⟩
      · rw [← hs']; exact (hnew x (hsub.subset hx)).1 e' he'
      · rw [hs']
        rintro rfl
        exact (List.nodup_cons.mp hnd).1 hx
    · intro a ha
      rw [single_step_asked] at ha
      rcases List.mem_append.mp ha with ha | ha
      · exact (hnew x (hsub.subset hx)).2 a ha
      · obtain ⟨e, he, hea⟩ := single_asked_sid s op a ha
        rw [← hea]; exact (hnew x (hsub.subset hx)).1 e he

end Sio.PubSub
