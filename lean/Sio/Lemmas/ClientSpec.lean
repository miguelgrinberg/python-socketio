/-
  K7 — facts about the spec alone (Sio/Model/ClientSpec.lean): the cases in which `specEv` accepts
  a transport event and what each does to the server's view (`EvCase`), the view's invariant
  (`VInv`) and the balance "accepted = ended + still connected" of its notifications (`Bal`), both
  kept by every accepted event; how `specEvs`, `specLoop` and `specRun` chain their steps.
-/
import Sio.Model.ClientSpec
namespace Sio.Client

theorem hasKey_iff_mem_keys {l : List (Ns × J)} {n : Ns} : hasKey l n = true ↔ n ∈ l.map (·.1) := by
  simp only [hasKey, List.any_eq_true, List.mem_map, decide_eq_true_eq]

theorem hasKey_eq_false {l : List (Ns × J)} {n : Ns} : hasKey l n = false ↔ ∀ e ∈ l, e.1 ≠ n := by
  simp [hasKey]

theorem hasKey_append (l : List (Ns × J)) (n m : Ns) (s : J) :
    hasKey (l ++ [(m, s)]) n = (hasKey l n || decide (m = n)) := by
  simp [hasKey]

theorem hasKey_dropNs (l : List (Ns × J)) (n m : Ns) :
    hasKey (dropNs l m) n = (hasKey l n && decide (n ≠ m)) := by
  rw [Bool.eq_iff_iff]
  simp only [hasKey, dropNs, List.any_filter, List.any_eq_true, Bool.and_eq_true, decide_eq_true_eq]
  exact ⟨fun ⟨e, he, h1, h2⟩ => ⟨⟨e, he, h2⟩, h2 ▸ h1⟩, fun ⟨⟨e, he, h2⟩, h1⟩ => ⟨e, he, h2 ▸ h1, h2⟩⟩

theorem dropNs_of_not_hasKey (l : List (Ns × J)) (n : Ns) (h : hasKey l n = false) :
    dropNs l n = l :=
  List.filter_eq_self.mpr fun e he => decide_eq_true (hasKey_eq_false.mp h e he)

theorem mem_dropAsk {l : List Ns} {n m : Ns} : m ∈ dropAsk l n ↔ m ∈ l ∧ m ≠ n := by
  simp [dropAsk, List.mem_filter]

theorem mem_dropNs {l : List (Ns × J)} {n : Ns} {e : Ns × J} : e ∈ dropNs l n ↔ e ∈ l ∧ e.1 ≠ n := by
  simp [dropNs, List.mem_filter]

/-- The cases in which `specEv` accepts an event while the transport is up, and what each does to
    the view. -/
inductive EvCase (m : Mode) (v : View) : Ev → View → List Note → Prop where
  | lost (hm : m = .live) : EvCase m v .lost View.down (v.acc.map fun e => .ended e.1)
  | close (hm : m = .live) : EvCase m v .close View.down (v.acc.map fun e => .ended e.1)
  | more {raw d pt pt'} (hp : v.pend = some pt) (ha : addAttachment pt raw = .ok (.more pt')) :
      EvCase m v (.msg raw d) { v with pend := some pt' } []
  | complete {raw d pt pk} (hp : v.pend = some pt) (ha : addAttachment pt raw = .ok (.complete pk))
      (hr : pk.type = BINARY_EVENT → reservedEvent pk.data = false) :
      EvCase m v (.msg raw d) { v with pend := none } []
  | accept {raw p s} (hp : v.pend = none) (ht : p.type = CONNECT) (hn : nsOr p.nsp ∈ v.asked)
      (hs : sidVal v.esid p.data = .ok s) :
      EvCase m v (.msg raw (.ok (p, 0)))
        { v with asked := dropAsk v.asked (nsOr p.nsp), acc := v.acc ++ [(nsOr p.nsp, s)] }
        [.accepted (nsOr p.nsp)]
  | again {raw p} (hp : v.pend = none) (ht : p.type = CONNECT) (hk : hasKey v.acc (nsOr p.nsp) = true)
      (hr : root ∉ v.ref) : EvCase m v (.msg raw (.ok (p, 0))) v []
  | refuse {raw p} (hp : v.pend = none) (ht : p.type = CONNECT_ERROR) (hn : nsOr p.nsp ∈ v.asked)
      (hr : m = .win true ∨ nsOr p.nsp ≠ root) :
      EvCase m v (.msg raw (.ok (p, 0)))
        { v with asked := dropAsk v.asked (nsOr p.nsp), ref := nsOr p.nsp :: v.ref }
        [.refused (nsOr p.nsp)]
  | leave {raw p} (hp : v.pend = none) (ht : p.type = DISCONNECT) (hm : m = .live)
      (hk : hasKey v.acc (nsOr p.nsp) = true) :
      EvCase m v (.msg raw (.ok (p, 0)))
        (if (dropNs v.acc (nsOr p.nsp)).isEmpty then View.down
         else { v with acc := dropNs v.acc (nsOr p.nsp) })
        [.ended (nsOr p.nsp)]
  | event {raw p} (hp : v.pend = none) (ht : p.type = EVENT) (hr : reservedEvent p.data = false) :
      EvCase m v (.msg raw (.ok (p, 0))) v []
  | ack {raw p} (hp : v.pend = none) (ht : p.type = ACK) : EvCase m v (.msg raw (.ok (p, 0))) v []
  | header {raw p natt} (hp : v.pend = none) (ht : isBinType p.type = true) (hn : 0 < natt) :
      EvCase m v (.msg raw (.ok (p, natt))) { v with pend := some ⟨p, natt, []⟩ } []

theorem specEv_down {m : Mode} {v : View} (e : Ev) (hup : v.up = false) : specEv m v e = some (v, []) := by
  simp [specEv, hup]

/-- The case analysis of `specEv`, once.  The type of the packet is settled first, so that each
    `split` sees one branch of the definition only. -/
theorem specEv_cases {m : Mode} {v v' : View} {e : Ev} {t : List Note} (hup : v.up = true)
    (hs : specEv m v e = some (v', t)) : EvCase m v e v' t := by
  obtain ⟨up, esid, asked, acc, ref, pend⟩ := v
  subst (hup : up = true)
  unfold specEv at hs
  rw [if_neg nofun] at hs
  cases e with
  | lost | close =>
    simp only at hs
    split at hs
    · obtain ⟨rfl, rfl⟩ := Prod.mk.inj (Option.some.inj hs); constructor; assumption
    · cases hs
  | msg raw d =>
    cases pend with
    | some pt =>
      simp only at hs
      cases raw with
      | bin b =>
        cases ha : addAttachment pt (.bin b) with
        | error er => simp only [ha] at hs; cases hs
        | ok r =>
          cases r with
          | more pt' => simp only [ha] at hs; cases hs; exact .more rfl ha
          | complete pk =>
            simp only [ha] at hs
            split at hs
            · cases hs
            · rename_i hr
              cases hs
              refine .complete rfl ha fun ht => ?_
              simpa [ht] using hr
      | _ => cases hs
    | none =>
      simp only at hs
      cases d with
      | error er => cases hs
      | ok pr =>
        obtain ⟨p, natt⟩ := pr
        simp only at hs
        by_cases h0 : p.type = CONNECT
        · rw [if_pos h0] at hs
          split at hs
          · rename_i hc
            simp only [Bool.and_eq_true, decide_eq_true_eq, List.contains_iff_mem] at hc
            obtain ⟨rfl, hn⟩ := hc
            split at hs
            · rename_i s hsv; cases hs; exact .accept rfl h0 hn hsv
            · cases hs
          · simp only [Option.ite_none_right_eq_some, Bool.and_eq_true, decide_eq_true_eq,
              Bool.not_eq_true', List.contains_eq_mem, decide_eq_false_iff_not] at hs
            obtain ⟨⟨⟨rfl, hk⟩, hr⟩, hs⟩ := hs
            cases hs; exact .again rfl h0 hk hr
        · rw [if_neg h0] at hs
          by_cases h4 : p.type = CONNECT_ERROR
          · simp only [if_pos h4, Option.ite_none_right_eq_some, Bool.and_eq_true, Bool.or_eq_true,
              decide_eq_true_eq, List.contains_iff_mem] at hs
            obtain ⟨⟨⟨rfl, hn⟩, hr⟩, hs⟩ := hs
            cases hs; exact .refuse rfl h4 hn hr
          · rw [if_neg h4] at hs
            by_cases h1 : p.type = DISCONNECT
            · simp only [if_pos h1, Option.ite_none_right_eq_some, Bool.and_eq_true, decide_eq_true_eq] at hs
              obtain ⟨⟨⟨rfl, hm⟩, hk⟩, hs⟩ := hs
              have := EvCase.leave (raw := raw) (v := ⟨true, esid, asked, acc, ref, none⟩) rfl h1 hm hk
              split at hs <;> rename_i he <;> cases hs
              · rwa [if_pos he] at this
              · rwa [if_neg he] at this
            · rw [if_neg h1] at hs
              by_cases h2 : p.type = EVENT
              · simp only [if_pos h2, Option.ite_none_right_eq_some, Bool.and_eq_true, decide_eq_true_eq,
                  Bool.not_eq_true'] at hs
                obtain ⟨⟨rfl, hr⟩, hs⟩ := hs
                cases hs; exact .event rfl h2 hr
              · rw [if_neg h2] at hs
                by_cases h3 : p.type = ACK
                · rw [if_pos h3, Option.ite_none_right_eq_some] at hs
                  obtain ⟨rfl, hs⟩ := hs
                  cases hs; exact .ack rfl h3
                · rw [if_neg h3, Option.ite_none_right_eq_some, Option.ite_none_right_eq_some] at hs
                  obtain ⟨hb, hn, hs⟩ := hs
                  cases hs; exact .header rfl hb hn

/-- What holds of the server's view along a conformant history; `q` is the list of namespaces the
    current (or last) `connect` asked for. -/
structure VInv (m : Mode) (q : List Ns) (v : View) : Prop where
  nodup : (v.acc.map (·.1)).Nodup
  down : v.up = false → v = View.down
  /-- asked or refused: requested and not connected -/
  pending : ∀ n, n ∈ v.asked ∨ n ∈ v.ref → n ∈ q ∧ hasKey v.acc n = false
  /-- inside the window every requested namespace is accounted for -/
  covered : m ≠ .live → ∀ n ∈ q, n ∈ v.asked ∨ n ∈ v.ref ∨ hasKey v.acc n = true
  answered : ∀ n ∈ v.ref, n ∉ v.asked
  rootref : root ∈ v.ref → m = .win true
  winup : m ≠ .live → v.up = true
  alive : v.up = true → v.asked ≠ [] ∨ v.ref ≠ [] ∨ v.acc ≠ []
  acc_sub : ∀ e ∈ v.acc, e.1 ∈ q

theorem VInv_down (q : List Ns) : VInv .live q View.down := by
  constructor <;> simp [View.down]

theorem VInv.setPend {m : Mode} {q : List Ns} {v : View} (h : VInv m q v) (hup : v.up = true)
    (p : Option Partial) : VInv m q { v with pend := p } :=
  { h with down := fun hd => by cases hup.symm.trans hd }

theorem VInv.accept {m : Mode} {q : List Ns} {v : View} (h : VInv m q v) (hup : v.up = true) {n : Ns}
    (hn : n ∈ v.asked) (s : J) :
    VInv m q { v with asked := dropAsk v.asked n, acc := v.acc ++ [(n, s)] } where
  nodup := by
    have hk : n ∉ v.acc.map (·.1) := by
      rw [← hasKey_iff_mem_keys, (h.pending n (.inl hn)).2]; nofun
    simp only [List.map_append, List.map_cons, List.map_nil]
    refine List.nodup_append.mpr ⟨h.nodup, by simp, fun x hx y hy hxy => ?_⟩
    rw [List.mem_singleton] at hy
    exact hk (hy ▸ hxy ▸ hx)
  down hd := by cases hup.symm.trans hd
  pending n' hn' := by
    have hp : (n' ∈ v.asked ∨ n' ∈ v.ref) ∧ n ≠ n' := by
      rcases hn' with h1 | h1
      · exact ⟨.inl (mem_dropAsk.mp h1).1, fun hq => (mem_dropAsk.mp h1).2 hq.symm⟩
      · exact ⟨.inr h1, fun hq => h.answered _ h1 (hq ▸ hn)⟩
    rw [hasKey_append, (h.pending n' hp.1).2]
    exact ⟨(h.pending n' hp.1).1, by simp [hp.2]⟩
  covered hm n' hn' := by
    rw [hasKey_append]
    rcases h.covered hm n' hn' with h1 | h1 | h1
    · by_cases hq : n' = n
      · right; right; simp [hq]
      · left; exact mem_dropAsk.mpr ⟨h1, hq⟩
    · right; left; exact h1
    · right; right; simp [h1]
  answered n' hn' hf := h.answered n' hn' (mem_dropAsk.mp hf).1
  rootref := h.rootref
  winup := h.winup
  alive _ := by right; right; simp
  acc_sub e he := by
    rcases List.mem_append.mp he with he | he
    · exact h.acc_sub e he
    · rw [List.mem_singleton.mp he]; exact (h.pending n (.inl hn)).1

theorem VInv.refuse {m : Mode} {q : List Ns} {v : View} (h : VInv m q v) (hup : v.up = true) {n : Ns}
    (hn : n ∈ v.asked) (hr : m = .win true ∨ n ≠ root) :
    VInv m q { v with asked := dropAsk v.asked n, ref := n :: v.ref } :=
  { h with
    down := fun hd => by cases hup.symm.trans hd
    pending := fun n' hn' => by
      rcases hn' with h1 | h1
      · exact h.pending n' (.inl (mem_dropAsk.mp h1).1)
      · rcases List.mem_cons.mp h1 with h1 | h1
        · exact h1 ▸ h.pending n (.inl hn)
        · exact h.pending n' (.inr h1)
    covered := fun hm n' hn' => by
      rcases h.covered hm n' hn' with h1 | h1 | h1
      · by_cases hq : n' = n
        · right; left; simp [hq]
        · left; exact mem_dropAsk.mpr ⟨h1, hq⟩
      · right; left; exact List.mem_cons_of_mem _ h1
      · right; right; exact h1
    answered := fun n' hn' hf => by
      have hf := mem_dropAsk.mp hf
      rcases List.mem_cons.mp hn' with h1 | h1
      · exact hf.2 h1
      · exact h.answered n' h1 hf.1
    rootref := fun hroot => by
      rcases List.mem_cons.mp hroot with h1 | h1
      · exact hr.resolve_right fun hne => hne h1.symm
      · exact h.rootref h1
    alive := fun _ => by right; left; simp }

theorem VInv.leave {q : List Ns} {v : View} (h : VInv .live q v) (hup : v.up = true) (n : Ns)
    (he : (dropNs v.acc n).isEmpty = false) : VInv .live q { v with acc := dropNs v.acc n } :=
  { h with
    nodup := (List.Sublist.map _ List.filter_sublist).nodup h.nodup
    down := fun hd => by cases hup.symm.trans hd
    pending := fun n' hn' => by
      have := h.pending n' hn'
      exact ⟨this.1, by rw [hasKey_dropNs, this.2]; rfl⟩
    covered := fun hm => absurd rfl hm
    alive := fun _ => by
      right; right; intro hnil
      rw [show dropNs v.acc n = [] from hnil] at he; cases he
    acc_sub := fun e he => h.acc_sub e (mem_dropNs.mp he).1 }

/-- 1 if the namespace is accepted and not ended -/
def ind (acc : List (Ns × J)) (n : Ns) : Nat := if hasKey acc n then 1 else 0

def cntA (n : Ns) (t : List Note) : Nat := t.count (.accepted n)
def cntE (n : Ns) (t : List Note) : Nat := t.count (.ended n)

@[simp] theorem cntA_nil (n : Ns) : cntA n [] = 0 := rfl
@[simp] theorem cntE_nil (n : Ns) : cntE n [] = 0 := rfl
@[simp] theorem cntA_append (n : Ns) (a b : List Note) : cntA n (a ++ b) = cntA n a + cntA n b := by
  simp [cntA]
@[simp] theorem cntE_append (n : Ns) (a b : List Note) : cntE n (a ++ b) = cntE n a + cntE n b := by
  simp [cntE]

/-- per namespace: `accepted = ended + still connected` across `t`, from view `v` to view `v'` -/
def Bal (v : View) (t : List Note) (v' : View) : Prop :=
  ∀ n, cntA n t + ind v.acc n = cntE n t + ind v'.acc n

theorem Bal.refl (v : View) : Bal v [] v := fun _ => rfl

theorem Bal.trans {v v1 v2 : View} {t1 t2 : List Note} (h1 : Bal v t1 v1) (h2 : Bal v1 t2 v2) :
    Bal v (t1 ++ t2) v2 := fun n => by
  have := h1 n; have := h2 n
  simp only [cntA_append, cntE_append]; omega

theorem Bal.of_acc {v v' : View} {t : List Note} (h : v'.acc = v.acc)
    (ht : ∀ n, cntA n t = 0 ∧ cntE n t = 0) : Bal v t v' := fun n => by
  rw [h, (ht n).1, (ht n).2]

theorem cntE_map_ended (n : Ns) (l : List (Ns × J)) (hnd : (l.map (·.1)).Nodup) :
    cntE n (l.map (fun e => Note.ended e.1)) = ind l n := by
  have : cntE n (l.map (fun e => Note.ended e.1)) = (l.map (·.1)).count n := by
    simp only [cntE, List.count_eq_countP, List.countP_map]
    congr 1; funext e
    rw [Bool.eq_iff_iff]; simp
  rw [this, hnd.count, ind]
  simp only [hasKey_iff_mem_keys]

theorem Bal.endAll {m : Mode} {q : List Ns} {v : View} (hv : VInv m q v) :
    Bal v (v.acc.map fun e => Note.ended e.1) View.down := fun n => by
  rw [cntE_map_ended n v.acc hv.nodup]
  simp [cntA, List.count_eq_zero, ind, View.down, hasKey]

/-- one transport event keeps the view's invariants and the balance
    `accepted = ended + still connected`, per namespace -/
theorem specEv_inv {m : Mode} {q : List Ns} {v v' : View} {e : Ev} {t : List Note} (hv : VInv m q v)
    (hs : specEv m v e = some (v', t)) : VInv m q v' ∧ Bal v t v' := by
  cases hup : v.up with
  | false => rw [specEv_down e hup] at hs; cases hs; exact ⟨hv, .refl v⟩
  | true =>
    cases specEv_cases hup hs with
    | lost hm | close hm => subst hm; exact ⟨VInv_down q, .endAll hv⟩
    | more | complete | header => exact ⟨hv.setPend hup _, .of_acc rfl fun _ => ⟨rfl, rfl⟩⟩
    | again | event | ack => exact ⟨hv, .refl v⟩
    | @accept _ p s _ _ hn _ =>
      refine ⟨hv.accept hup hn s, fun n => ?_⟩
      have hk := (hv.pending _ (.inl hn)).2
      simp only [ind, hasKey_append, cntA, cntE]
      by_cases hq : nsOr p.nsp = n
      · subst hq; simp [hk]
      · simp [hq]
    | refuse _ _ hn hr =>
      exact ⟨hv.refuse hup hn hr, .of_acc rfl fun n => by simp [cntA, cntE]⟩
    | @leave _ p _ _ hm hk =>
      subst hm
      have hacc : ∀ w : View, w.acc = dropNs v.acc (nsOr p.nsp) → Bal v [.ended (nsOr p.nsp)] w := by
        intro w hw n
        simp only [ind, hw, hasKey_dropNs, cntA, cntE]
        by_cases hq : nsOr p.nsp = n
        · subst hq; simp [hk]
        · simp [hq, Ne.symm hq]
      cases he : (dropNs v.acc (nsOr p.nsp)).isEmpty with
      | true => exact ⟨VInv_down q, hacc _ (List.isEmpty_iff.mp he).symm⟩
      | false => exact ⟨hv.leave hup _ he, hacc _ rfl⟩

/-- how `specEvs`, `specLoop` and `specRun` chain a step and the rest -/
theorem seq_eq_some {a : Option (View × List Note)} {k : View → Option (View × List Note)} {v' : View}
    {t : List Note}
    (hs : (match a with
      | none => none
      | some (v1, t1) =>
        match k v1 with
        | none => none
        | some (v2, t2) => some (v2, t1 ++ t2)) = some (v', t)) :
    ∃ v1 t1 t2, a = some (v1, t1) ∧ k v1 = some (v', t2) ∧ t = t1 ++ t2 := by
  cases a with
  | none => cases hs
  | some r1 =>
    obtain ⟨v1, t1⟩ := r1
    cases h2 : k v1 with
    | none => simp only [h2] at hs; cases hs
    | some r2 =>
      obtain ⟨v2, t2⟩ := r2
      simp only [h2] at hs; cases hs
      exact ⟨v1, t1, t2, rfl, h2, rfl⟩

theorem specEvs_cons {m : Mode} {v v' : View} {e : Ev} {es : List Ev} {t : List Note}
    (hs : specEvs m v (e :: es) = some (v', t)) :
    ∃ v1 t1 t2, specEv m v e = some (v1, t1) ∧ specEvs m v1 es = some (v', t2) ∧ t = t1 ++ t2 :=
  seq_eq_some (k := fun v1 => specEvs m v1 es) (by rwa [specEvs] at hs)

theorem specLoop_cons {w : Bool} {v v' : View} {n : Ns} {ns : List Ns} {rs : List (List Ev)} {t : List Note}
    (hs : specLoop w v (n :: ns) rs = some (v', t)) :
    ∃ v1 t1 t2, specEvs (.win w) v (rs.headD []) = some (v1, t1)
      ∧ specLoop w v1 ns rs.tail = some (v', t2) ∧ t = t1 ++ t2 :=
  seq_eq_some (k := fun v1 => specLoop w v1 ns rs.tail) (by rwa [specLoop] at hs)

theorem specRun_cons {strict : Bool} {v v' : View} {i : Input} {is : List Input} {t : List Note}
    (hs : specRun strict v (i :: is) = some (v', t)) :
    ∃ v1 t1 t2, specStep strict v i = some (v1, t1) ∧ specRun strict v1 is = some (v', t2)
      ∧ t = t1 ++ t2 :=
  seq_eq_some (k := fun v1 => specRun strict v1 is) (by rwa [specRun] at hs)

/-- the window closes: `connect()` returns normally -/
theorem VInv.close {q : List Ns} {v : View} {w : Bool} (h : VInv (.win w) q v) (hroot : root ∉ v.ref) :
    VInv .live q v :=
  { h with
    down := fun hd => by cases (h.winup nofun).symm.trans hd
    covered := fun hm => absurd rfl hm
    rootref := fun hr => absurd hr hroot
    winup := fun hm => absurd rfl hm }

/-- a `connect(wait=True)` that returns has seen no refusal -/
theorem specStep_window_ok {wait : Bool} {v1 : View}
    (hok : ¬ ((wait && !(v1.asked.isEmpty && v1.ref.isEmpty)) = true)) {q : List Ns}
    (h : VInv (.win wait) q v1) : root ∉ v1.ref := by
  intro hr
  cases h.rootref hr
  cases hq : v1.ref with
  | nil => rw [hq] at hr; cases hr
  | cons a l => simp [hq] at hok

end Sio.Client
