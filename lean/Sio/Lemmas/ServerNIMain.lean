/-
  K4 — noninterference (property C12), part 3: the interleaving theorem.
-/
import Sio.Lemmas.ServerNILoc
namespace Sio.Server
open Sio.Rooms

/-- what the inputs that are not the hostile transport's produce, in order, along a history -/
def othersOuts (dec : Str → Except Err (Packet × Nat)) (cfg : Cfg) (t : Eio) :
    Srv → List Input → List Out
  | _, [] => []
  | s, i :: is =>
    (if ofT t i then [] else (step dec cfg s i).2) ++ othersOuts dec cfg t (step dec cfg s i).1 is

/-- what the hostile transport's own inputs produce -/
def hostileOuts (dec : Str → Except Err (Packet × Nat)) (cfg : Cfg) (t : Eio) :
    Srv → List Input → List Out
  | _, [] => []
  | s, i :: is =>
    (if ofT t i then (step dec cfg s i).2 else []) ++ hostileOuts dec cfg t (step dec cfg s i).1 is

/-- The reference semantics: a run in which, before each input, the id generator skips the given
    number of session ids (`generate_id()` only promises not to repeat an id, DESIGN §4; in the
    model ids are `sidName 0, 1, 2, …`, so "another sequence of fresh ids" is "some are skipped"). -/
def runSkip (dec : Str → Except Err (Packet × Nat)) (cfg : Cfg) :
    Srv → List (Nat × Input) → Srv × List Out
  | s, [] => (s, [])
  | s, (d, i) :: is =>
    ((runSkip dec cfg (step dec cfg (bump d s) i).1 is).1,
      (step dec cfg (bump d s) i).2 ++ (runSkip dec cfg (step dec cfg (bump d s) i).1 is).2)

theorem ofT_ofOther {t : Eio} {i : Input} (h : ofOther t i = true) : ofT t i = false := by
  cases i <;> simp_all [ofT, ofOther]

theorem WF.runSkip {s : Srv} (h : WF s) (dec : Str → Except Err (Packet × Nat)) (cfg : Cfg)
    (is : List (Nat × Input)) : WF (runSkip dec cfg s is).1 := by
  induction is generalizing s with
  | nil => exact h
  | cons x is ih => obtain ⟨d, i⟩ := x; rw [Server.runSkip]; exact ih ((h.bump d).step dec cfg i)

/-- the simulation: the mixed run from `s₁` against the hostile-free run from `s₂` -/
theorem ni_sim {dec : Str → Except Err (Packet × Nat)} {cfg : Cfg} (hst : cfg.script.Stable)
    (t : Eio) (mix : List Input) (hmix : ∀ i ∈ mix, ofT t i = true ∨ ofOther t i = true) :
    ∀ (s₁ s₂ : Srv), WF s₁ → WF s₂ → (∃ d, strip t s₁ = strip t (bump d s₂)) →
      ∃ skips : List Nat, skips.length = (mix.filter (ofOther t)).length ∧
        othersOuts dec cfg t s₁ mix =
          (runSkip dec cfg s₂ (skips.zip (mix.filter (ofOther t)))).2 ∧
        ∃ d, strip t (run dec cfg s₁ mix).1 =
          strip t (bump d (runSkip dec cfg s₂ (skips.zip (mix.filter (ofOther t)))).1) := by
  induction mix with
  | nil =>
    intro s₁ s₂ _ _ hrel
    exact ⟨[], rfl, rfl, by rw [run_nil]; exact hrel⟩
  | cons i is ih =>
    intro s₁ s₂ h₁ h₂ ⟨d, hrel⟩
    have hmix' : ∀ j ∈ is, ofT t j = true ∨ ofOther t j = true :=
      fun j hj => hmix j (List.mem_cons_of_mem _ hj)
    rcases hmix i List.mem_cons_self with hi | hi
    · -- a hostile input: invisible, up to the id counter
      have hno : ofOther t i = false :=
        Bool.eq_false_iff.mpr fun hq => Bool.noConfusion ((ofT_ofOther hq).symm.trans hi)
      obtain ⟨d', hd'⟩ := strip_hostile h₁ dec cfg hi
      have hrel' : ∃ d, strip t (step dec cfg s₁ i).1 = strip t (bump d s₂) :=
        ⟨d + d', by rw [hd', hrel, strip_bump, strip_bump, bump_bump]⟩
      obtain ⟨skips, hl, ho, hs⟩ := ih hmix' _ s₂ (h₁.step dec cfg i) h₂ hrel'
      rw [List.filter_cons, hno, othersOuts, hi, run_cons]
      exact ⟨skips, hl, by simpa using ho, hs⟩
    · -- an input of another transport: locality on both sides
      have hnt : ofT t i = false := ofT_ofOther hi
      have hw₂ := h₂.bump d
      have hl := loc_of_strip_eq (dec := dec) hst h₁ hw₂ hrel hi
      have hrel' : ∃ d', strip t (step dec cfg s₁ i).1 =
          strip t (bump d' (step dec cfg (bump d s₂) i).1) := ⟨0, hl.2⟩
      obtain ⟨skips, hlen, ho, hs⟩ :=
        ih hmix' _ _ (h₁.step dec cfg i) (hw₂.step dec cfg i) hrel'
      rw [List.filter_cons, hi, othersOuts, hnt, run_cons]
      refine ⟨d :: skips, by simp [hlen], ?_, ?_⟩
      · simp only [Bool.false_eq_true, if_false, if_true, List.zip_cons_cons, Server.runSkip]
        rw [hl.1, ho]
      · simp only [if_true, List.zip_cons_cons, Server.runSkip]
        exact hs

theorem hostileOuts_sends {dec : Str → Except Err (Packet × Nat)} {cfg : Cfg} (t : Eio)
    (mix : List Input) : ∀ (s : Srv), WF s →
    ∀ o ∈ hostileOuts dec cfg t s mix, ∀ t' p, o = .send t' p → t' = t := by
  induction mix with
  | nil => intro s _ o ho; cases ho
  | cons i is ih =>
    intro s h o ho t' p heq
    rw [hostileOuts] at ho
    rcases List.mem_append.mp ho with ho | ho
    · by_cases hi : ofT t i = true
      · rw [if_pos hi] at ho
        subst heq
        rcases ofT_cases hi with rfl | ⟨v, rfl⟩ | ⟨r, rfl⟩
        · rw [step] at ho; cases ho
        · rw [step] at ho
          exact frame_outs h dec cfg t v _ ho
        · rw [step, handleLost_eq] at ho
          split at ho
          · cases ho
          · exact lostGo_outs h cfg t r _ (fun o => ∀ t' p, o = .send t' p → t' = t)
              (fun o hc t' p he => by subst he; exact hc) _ ho t' p rfl
      · rw [if_neg hi] at ho; cases ho
    · exact ih _ (h.step dec cfg i) o ho t' p heq

theorem othersOuts_sublist (dec : Str → Except Err (Packet × Nat)) (cfg : Cfg) (t : Eio)
    (mix : List Input) : ∀ s, List.Sublist (othersOuts dec cfg t s mix) (run dec cfg s mix).2 := by
  induction mix with
  | nil => intro s; rw [run_nil]; exact List.Sublist.refl _
  | cons i is ih =>
    intro s
    rw [run_cons, othersOuts]
    refine List.Sublist.append ?_ (ih _)
    split
    · exact List.nil_sublist _
    · exact List.Sublist.refl _

theorem mem_run_outs (dec : Str → Except Err (Packet × Nat)) (cfg : Cfg) (t : Eio)
    (mix : List Input) : ∀ s o, o ∈ (run dec cfg s mix).2 ↔
      o ∈ hostileOuts dec cfg t s mix ∨ o ∈ othersOuts dec cfg t s mix := by
  induction mix with
  | nil => intro s o; rw [run_nil]; simp [hostileOuts, othersOuts]
  | cons i is ih =>
    intro s o
    rw [run_cons, hostileOuts, othersOuts, List.mem_append, List.mem_append, List.mem_append, ih]
    by_cases hi : ofT t i = true
    · simp [hi, or_assoc]
    · simp [hi, or_left_comm]

end Sio.Server
