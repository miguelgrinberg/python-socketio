/-
  Helper lemmas for K3 (rooms): `rooms()` answers, and non-membership is stable under every
  operation that does not (re-)enter the room.
-/
import Sio.Lemmas.RoomsEmit
import Sio.Lemmas.RoomsRefine
namespace Sio.Rooms

theorem mem_getRooms {s : St} {ns : Ns} {sid : Sid} {r : Room} :
    r ∈ getRooms s ns sid ↔ isMember s ns (some r) sid = true := by
  rw [isMember_iff]
  simp only [getRooms, List.mem_filterMap]
  constructor
  · rintro ⟨⟨a, b, c, d⟩, he, hr⟩
    simp only at hr
    split at hr
    · rename_i hc
      obtain ⟨rfl, rfl⟩ := hc
      subst hr
      exact ⟨d, he⟩
    · cases hr
  · rintro ⟨e, he⟩
    exact ⟨_, he, by simp⟩

theorem Inv.getRooms_nodup {s : St} (h : Inv s) (ns : Ns) (sid : Sid) :
    (getRooms s ns sid).Nodup := by
  rw [getRooms, List.Nodup, List.pairwise_filterMap]
  refine h.nodup.imp_of_mem fun {a b} ha hb hne r hr r' hr' heq => hne ?_
  subst heq
  split at hr
  · split at hr'
    · rename_i h1 h2
      exact h.entry_eq ha hb (h1.1.trans h2.1.symm) (hr.trans hr'.symm) (h1.2.trans h2.2.symm)
    · cases hr'
  · cases hr

/-- the operation puts `sid` into `room` of `ns` (`room = none`: connects it) -/
def Op.enters (ns : Ns) (room : Option Room) (sid : Sid) : Op → Prop
  | .enter ns' sid' r => ns' = ns ∧ sid' = sid ∧ room = some r
  | .connect ns' _ sid' => ns' = ns ∧ sid' = sid ∧ (room = none ∨ room = some sid)
  | _ => False

/-- the operation takes `sid` out of `room` of `ns` -/
def Op.removes (s : St) (ns : Ns) (room : Option Room) (sid : Sid) : Op → Prop
  | .leave ns' sid' r => ns' = ns ∧ sid' = sid ∧ room = some r
  | .closeRoom ns' r => ns' = ns ∧ room = some r
  | .disconnect ns' sid' => ns' = ns ∧ sid' = sid
  | .lost eio => sidOf s ns eio = some sid
  | _ => False

theorem mem_apply_imp {s : St} {op : Op} {x : Entry} (hx : x ∈ apply s op) :
    x ∈ s ∨ op.enters x.ns x.room x.sid := by
  cases op with
  | connect ns eio sid =>
    simp only [apply] at hx
    split at hx
    · exact Or.inl hx
    · cases hc : connect s ns eio sid with
      | none => rw [hc] at hx; exact Or.inl hx
      | some s' =>
        rw [hc] at hx
        rcases (mem_connect hc x).mp hx with h | rfl | rfl
        · exact Or.inl h
        · exact Or.inr ⟨rfl, rfl, Or.inl rfl⟩
        · exact Or.inr ⟨rfl, rfl, Or.inr rfl⟩
  | enter ns sid room =>
    simp only [apply] at hx
    split at hx
    · rename_i s' he
      obtain ⟨eio, _, hm⟩ := mem_enter he
      rcases (hm x).mp hx with h | rfl
      · exact Or.inl h
      · exact Or.inr ⟨rfl, rfl, rfl⟩
    · exact Or.inl hx
  | leave | closeRoom | disconnect | lost => exact Or.inl (List.mem_filter.mp hx).1

theorem not_member_apply {s : St} {ns : Ns} {room : Option Room} {sid : Sid} {op : Op}
    (h : isMember s ns room sid = false) (hop : ¬ op.enters ns room sid) :
    isMember (apply s op) ns room sid = false := by
  rw [isMember_false_iff] at h ⊢
  intro eio hx
  rcases mem_apply_imp hx with hx | hx
  · exact h eio hx
  · exact hop hx

theorem not_member_run {s : St} {ns : Ns} {room : Option Room} {sid : Sid} {ops : List Op}
    (h : isMember s ns room sid = false) (hops : ∀ op ∈ ops, ¬ op.enters ns room sid) :
    isMember (run s ops) ns room sid = false := by
  induction ops generalizing s with
  | nil => exact h
  | cons op ops ih =>
    exact ih (not_member_apply h (hops op List.mem_cons_self))
      (fun op' h' => hops op' (List.mem_cons_of_mem _ h'))

theorem removes_not_member {s : St} {ns : Ns} {room : Option Room} {sid : Sid} {op : Op}
    (hop : op.removes s ns room sid) : isMember (apply s op) ns room sid = false := by
  rw [isMember_false_iff]
  intro eio hx
  cases op with
  | connect | enter => exact hop
  | leave | closeRoom | disconnect | lost =>
    have := (List.mem_filter.mp hx).2
    simp only [Op.removes] at hop
    simp [hop] at this

end Sio.Rooms
