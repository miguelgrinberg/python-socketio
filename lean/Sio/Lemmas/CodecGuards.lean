/-
  C01 — the header scanner read backwards: what an accepted input must have looked like, phase by
  phase; and from that the two resource guards (reused by C12): whatever the input, an accepted
  header announces fewer than 10^10 attachments and carries an id below 10^100.
-/
import Sio.Lemmas.CodecDigits
namespace Sio
variable {cls : Char → DC}

theorem decodeHdr_ok {s : Str} {h : Hdr} (hh : decodeHdr cls s = .ok h) :
    ∃ ep, pyInt cls (s.take 1) = .ok h.type ∧ scanAtt cls (s.drop 1) = .ok (h.natt, ep) ∧
      h.nsp = (scanNs ep).1 ∧ scanId cls (scanNs ep).2 = .ok (h.id, h.rest) := by
  simp only [decodeHdr, bind, Except.bind] at hh
  split at hh
  · cases hh
  · rename_i t h1
    split at hh
    · cases hh
    · rename_i na h2
      split at hh
      · cases hh
      · rename_i ie h3
        cases hh
        exact ⟨na.2, h1, h2, rfl, h3⟩

theorem scanId_ok {ep r : Str} {i : Option Nat} (h : scanId cls ep = .ok (i, r)) :
    (r = [] ∨ ∃ c t, r = c :: t ∧ (cls c).isDigit = false) ∧
    ((i = none ∧ r = ep) ∨
      ∃ k v, k ≤ 100 ∧ pyInt cls (ep.take k) = .ok v ∧ i = some v ∧ r = ep.drop k) := by
  unfold scanId at h
  split at h
  · rename_i c tl
    split at h
    · simp only [bind, Except.bind] at h
      have hk := Nat.min_le_right ((c :: tl).takeWhile fun c => (cls c).isDigit).length idDigitLimit
      split at h
      · cases h
      · rename_i v hp
        split at h
        · rename_i d t hd
          split at h
          · cases h
          · rename_i hnd
            cases h
            exact ⟨.inr ⟨d, t, hd, by simpa using hnd⟩, .inr ⟨_, v, hk, hp, rfl, rfl⟩⟩
        · rename_i hd
          cases h
          exact ⟨.inl hd, .inr ⟨_, v, hk, hp, rfl, rfl⟩⟩
    · rename_i hc
      cases h
      exact ⟨.inr ⟨c, tl, rfl, by simpa using hc⟩, .inl ⟨rfl, rfl⟩⟩
  · cases h; exact ⟨.inl rfl, .inl ⟨rfl, rfl⟩⟩

theorem scanAtt_bound (hd : DecLt10 cls) {ep r : Str} {n : Nat}
    (h : scanAtt cls ep = .ok (n, r)) : n < 10 ^ 10 := by
  unfold scanAtt at h
  dsimp only at h
  split at h
  · split at h
    · cases h
    · rename_i hlen
      -- the count is `int()` of at most ten characters
      cases hp : pyInt cls (ep.takeWhile (· != '-')) with
      | error e => rw [hp] at h; cases h
      | ok v =>
        rw [hp] at h; cases h
        exact Nat.lt_of_lt_of_le (pyInt_bound hd hp)
          (Nat.pow_le_pow_right (by decide) (Nat.not_lt.mp hlen))
  · cases h; decide

theorem scanId_bound (hd : DecLt10 cls) {ep r : Str} {i : Nat}
    (h : scanId cls ep = .ok (some i, r)) : i < 10 ^ 100 := by
  obtain ⟨_, ⟨h0, _⟩ | ⟨k, v, hk, hp, hi, _⟩⟩ := scanId_ok h
  · cases h0
  · cases hi
    refine Nat.lt_of_lt_of_le (pyInt_bound hd hp) (Nat.pow_le_pow_right (by decide) ?_)
    rw [List.length_take]; omega

theorem decodeHdr_natt_bound (hd : DecLt10 cls) {s : Str} {h : Hdr}
    (hh : decodeHdr cls s = .ok h) : h.natt < 10 ^ 10 := by
  obtain ⟨_, _, h1, _⟩ := decodeHdr_ok hh
  exact scanAtt_bound hd h1

theorem decodeHdr_id_bound (hd : DecLt10 cls) {s : Str} {h : Hdr} {i : Nat}
    (hh : decodeHdr cls s = .ok h) (hi : h.id = some i) : i < 10 ^ 100 := by
  obtain ⟨_, _, _, _, h2⟩ := decodeHdr_ok hh
  exact scanId_bound hd (hi ▸ h2)
end Sio
