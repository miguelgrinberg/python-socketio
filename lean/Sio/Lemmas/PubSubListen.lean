/-
  K6 (pub/sub), one host and one message: `dispatch` by method name, the callback chain of
  `trigger_callback`, handlers that fail before they act, and the fold structure of `listen`.
-/
import Sio.Model.PubSub
namespace Sio.PubSub
open Sio.Rooms

/-- each method name differs from those `dispatch` compares with before it -/
@[simp] theorem method_ne :
    mEmit ≠ mCallback ∧
    (mDisconnect ≠ mCallback ∧ mDisconnect ≠ mEmit) ∧
    (mEnterRoom ≠ mCallback ∧ mEnterRoom ≠ mEmit ∧ mEnterRoom ≠ mDisconnect) ∧
    (mLeaveRoom ≠ mCallback ∧ mLeaveRoom ≠ mEmit ∧ mLeaveRoom ≠ mDisconnect ∧
      mLeaveRoom ≠ mEnterRoom) ∧
    (mCloseRoom ≠ mCallback ∧ mCloseRoom ≠ mEmit ∧ mCloseRoom ≠ mDisconnect ∧
      mCloseRoom ≠ mEnterRoom ∧ mCloseRoom ≠ mLeaveRoom) := by decide

variable {h : Host} {m : DMsg}

theorem dispatch_mCallback (hm : m.method = some mCallback) : dispatch h m = handleCallback h m :=
  if_pos hm

theorem dispatch_own (h : Host) (m : DMsg) (hown : m.hostId = some h.id)
    (hm : m.method ≠ some mCallback) : dispatch h m = { h := h } := by
  rw [dispatch, if_neg hm, if_pos hown]

theorem dispatch_mEmit (hm : m.method = some mEmit) (ho : m.hostId ≠ some h.id) :
    dispatch h m = handleEmit h m := by
  simp only [dispatch, hm, Option.some.injEq, method_ne, ho, if_false, if_true]

theorem dispatch_mDisconnect (hm : m.method = some mDisconnect) (ho : m.hostId ≠ some h.id) :
    dispatch h m = handleDisconnect h m := by
  simp only [dispatch, hm, Option.some.injEq, method_ne, ho, if_false, if_true]

theorem dispatch_mEnterRoom (hm : m.method = some mEnterRoom) (ho : m.hostId ≠ some h.id) :
    dispatch h m = handleEnterRoom h m := by
  simp only [dispatch, hm, Option.some.injEq, method_ne, ho, if_false, if_true]

theorem dispatch_mLeaveRoom (hm : m.method = some mLeaveRoom) (ho : m.hostId ≠ some h.id) :
    dispatch h m = handleLeaveRoom h m := by
  simp only [dispatch, hm, Option.some.injEq, method_ne, ho, if_false, if_true]

theorem dispatch_mCloseRoom (hm : m.method = some mCloseRoom) (ho : m.hostId ≠ some h.id) :
    dispatch h m = handleCloseRoom h m := by
  simp only [dispatch, hm, Option.some.injEq, method_ne, ho, if_false, if_true]

/-- the host state after `callbacks[key][id]` has been removed -/
def delCb (h : Host) (key : Str) (id : Nat) : Host :=
  { h with cbs := fun k j => if k = key ∧ j = id then none else h.cbs k j }

theorem trigger_absent {fuel : Nat} {h : Host} {key : Str} {id : Nat} {args : Option (List J)}
    (hn : h.cbs key id = none) : trigger fuel h key id args = { h := h } := by
  cases fuel with
  | zero => rfl
  | succ n => simp only [trigger, hn]

theorem trigger_user {f : Nat} {h : Host} {key : Str} {id : Nat} {t : Nat} {xs : List J}
    (hc : h.cbs key id = some (.user t)) :
    trigger (f + 1) h key id (some xs) = { h := delCb h key id, outs := [.callback h.id t xs] } := by
  simp only [trigger, hc, delCb]

theorem trigger_relay_remote {f : Nat} {h : Host} {key : Str} {id : Nat} {o : Option HostId} {k : Str}
    {n : Ns} {i : Nat} {xs : List J} (hc : h.cbs key id = some (.relay o k n i)) (ho : o ≠ some h.id) :
    trigger (f + 1) h key id (some xs) =
      { h := delCb h key id, pubs := [.callback o k n i xs] } := by
  simp only [trigger, hc, delCb, ho, if_false]

theorem trigger_relay_local {f : Nat} {h : Host} {key : Str} {id : Nat} {k : Str} {n : Ns} {i : Nat}
    {xs : List J} (hc : h.cbs key id = some (.relay (some h.id) k n i)) :
    trigger (f + 1) h key id (some xs) = trigger f (delCb h key id) k i (some xs) := by
  simp only [trigger, hc, delCb, if_true]

/-- Induction along the chain `trigger_callback` → `_return_callback` → `trigger_callback`: what
    holds of the four ways a link can end, and is inherited from the next link by a relay that
    points back at this host, holds of every run. -/
theorem trigger_induct {P : Host → Res → Prop} (args : Option (List J))
    (stop : ∀ h, P h { h := h })
    (raise : ∀ h key id, args = none → P h { h := delCb h key id, err := some .typeError })
    (user : ∀ h key id tok xs, args = some xs → h.cbs key id = some (.user tok) →
      P h { h := delCb h key id, outs := [.callback h.id tok xs] })
    (remote : ∀ h key id o k n i xs, args = some xs → o ≠ some h.id →
      P h { h := delCb h key id, pubs := [.callback o k n i xs] })
    (chain : ∀ h key id r, P (delCb h key id) r → P h r)
    (fuel : Nat) (h : Host) (key : Str) (id : Nat) : P h (trigger fuel h key id args) := by
  induction fuel generalizing h key id with
  | zero => exact stop h
  | succ f ih =>
    cases hc : h.cbs key id with
    | none => rw [trigger_absent hc]; exact stop h
    | some cb =>
      cases args with
      | none => simp only [trigger, hc]; exact raise h key id rfl
      | some xs =>
        cases cb with
        | user tok => rw [trigger_user hc]; exact user h key id tok xs rfl hc
        | relay o k n i =>
          by_cases ho : o = some h.id
          · rw [trigger_relay_local (ho ▸ hc)]
            exact chain h key id _ (ih _ k i)
          · rw [trigger_relay_remote hc ho]
            exact remote h key id o k n i xs rfl ho

theorem trigger_err_none (fuel : Nat) (h : Host) (key : Str) (id : Nat) (xs : List J) :
    (trigger fuel h key id (some xs)).err = none :=
  trigger_induct (P := fun _ r => r.err = none) (some xs) (fun _ => rfl) (fun _ _ _ hx => nomatch hx)
    (fun _ _ _ _ _ _ _ => rfl) (fun _ _ _ _ _ _ _ _ _ _ => rfl) (fun _ _ _ _ ih => ih) fuel h key id

/-- a result that either did not fail or did nothing -/
def ErrNoop (h : Host) (r : Res) : Prop := r.err = none ∨ (r.h = h ∧ r.outs = [] ∧ r.pubs = [])

/- Each `_handle_*` is a tree of `if`/`match` whose leaves either have `err = none` or are
   `{ h := h, err := some _ }`: split to the leaves, and each is one of the two. -/
theorem errNoop_handleEmit (h : Host) (m : DMsg) : ErrNoop h (handleEmit h m) := by
  unfold handleEmit ErrNoop
  dsimp only
  repeat' split
  all_goals first | (right; exact ⟨rfl, rfl, rfl⟩) | (left; rfl)

theorem errNoop_handleDisconnect (h : Host) (m : DMsg) : ErrNoop h (handleDisconnect h m) := by
  unfold handleDisconnect ErrNoop localDisconnect
  dsimp only
  repeat' split
  all_goals first | (right; exact ⟨rfl, rfl, rfl⟩) | (left; rfl)

theorem errNoop_handleEnterRoom (h : Host) (m : DMsg) : ErrNoop h (handleEnterRoom h m) := by
  unfold handleEnterRoom ErrNoop
  repeat' split
  all_goals first | (right; exact ⟨rfl, rfl, rfl⟩) | (left; rfl)

theorem errNoop_handleLeaveRoom (h : Host) (m : DMsg) : ErrNoop h (handleLeaveRoom h m) := by
  unfold handleLeaveRoom ErrNoop
  repeat' split
  all_goals first | (right; exact ⟨rfl, rfl, rfl⟩) | (left; rfl)

theorem errNoop_handleCloseRoom (h : Host) (m : DMsg) : ErrNoop h (handleCloseRoom h m) := by
  unfold handleCloseRoom ErrNoop
  repeat' split
  all_goals first | (right; exact ⟨rfl, rfl, rfl⟩) | (left; rfl)

theorem errNoop_handleCallback (h : Host) (m : DMsg) (hargs : m.args ≠ .nonIterable) :
    ErrNoop h (handleCallback h m) := by
  unfold handleCallback ErrNoop
  split
  · split
    any_goals first | (right; exact ⟨rfl, rfl, rfl⟩) | (left; rfl)
    left
    cases hq : m.args with
    | absent => simp_all
    | nonIterable => exact absurd hq hargs
    | ok xs => exact trigger_err_none ..
  · right; exact ⟨rfl, rfl, rfl⟩

theorem ErrNoop.ite {h : Host} {c : Prop} [Decidable c] {a b : Res} (ha : ErrNoop h a)
    (hb : ErrNoop h b) : ErrNoop h (if c then a else b) := by
  split
  · exact ha
  · exact hb

theorem errNoop_dispatch (h : Host) (m : DMsg) (hargs : m.args ≠ .nonIterable) :
    ErrNoop h (dispatch h m) :=
  have idle : ErrNoop h { h := h } := .inl rfl
  .ite (errNoop_handleCallback h m hargs) <| .ite idle <| .ite (errNoop_handleEmit h m) <|
    .ite (errNoop_handleDisconnect h m) <| .ite (errNoop_handleEnterRoom h m) <|
    .ite (errNoop_handleLeaveRoom h m) <| .ite (errNoop_handleCloseRoom h m) idle

def LRes.andThen (a b : LRes) : LRes :=
  { h := b.h, outs := a.outs ++ b.outs, pubs := a.pubs ++ b.pubs, alive := b.alive }

theorem listen_cons (h : Host) (e : Item) (es : List Item) :
    listen h (e :: es) =
      if (listenStep h e).alive then (listenStep h e).andThen (listen (listenStep h e).h es)
      else listenStep h e := rfl

theorem listen_nil (h : Host) : listen h [] = { h := h } := rfl

theorem LRes.andThen_assoc (a b c : LRes) : (a.andThen b).andThen c = a.andThen (b.andThen c) := by
  simp only [LRes.andThen, List.append_assoc]

/-- a `dispatch` that ran no application code (or failed) does not depend on how the application
    behaves -/
theorem dispatchF_eq_dispatch {h : Host} {m : DMsg} {f : Fault}
    (hs : ¬ (f = .srv ∧ m.method = some mDisconnect ∧ m.hostId ≠ some h.id))
    (hq : (dispatch h m).err = none → (dispatch h m).outs = []) :
    dispatchF h m f = (dispatch h m, false) := by
  unfold dispatchF
  rw [if_neg hs]
  dsimp only
  rw [if_neg, if_neg]
  · rintro ⟨he, _, hc⟩
    rw [hq (Option.isNone_iff_eq_none.mp he)] at hc
    cases hc
  · rintro ⟨he, _, hc⟩
    rw [hq (Option.isNone_iff_eq_none.mp he)] at hc
    rcases hc with hc | hc <;> cases hc

theorem dispatchF_srv {h : Host} {m : DMsg} (hm : m.method = some mDisconnect)
    (hf : m.hostId ≠ some h.id) : dispatchF h m .srv = ({ h := h, err := some .other }, false) :=
  if_pos ⟨rfl, hm, hf⟩

theorem listenStep_dict {h : Host} {m : DMsg} (raw : Raw) (hr : raw ≠ .listenRaises)
    (hd : decode raw = .dict m) (f : Fault) :
    listenStep h ⟨raw, f⟩ =
      if (dispatchF h m f).2 then
        { h := (dispatchF h m f).1.h, outs := (dispatchF h m f).1.outs,
          pubs := (dispatchF h m f).1.pubs, alive := false }
      else match (dispatchF h m f).1.err with
        | none => { h := (dispatchF h m f).1.h, outs := (dispatchF h m f).1.outs,
                    pubs := (dispatchF h m f).1.pubs }
        | some err => { h := (dispatchF h m f).1.h,
                        outs := (dispatchF h m f).1.outs ++ [.handlerError h.id err],
                        pubs := (dispatchF h m f).1.pubs } := by
  unfold listenStep
  split
  · rename_i heq; exact absurd heq hr
  · simp only [hd, preDispatch]
    rfl

theorem listenStep_dies {h : Host} {e : Item} (hd : (listenStep h e).alive = false) :
    e.fault = .fatal := by
  unfold listenStep at hd
  split at hd
  · cases hd
  · split at hd
    · cases hd
    · cases hd
    · rename_i m _
      dsimp only at hd
      split at hd
      · -- `dispatchF` reports death in its `fatal` branch only
        rename_i hf
        unfold dispatchF at hf
        split at hf
        · cases hf
        · dsimp only at hf
          split at hf
          · cases hf
          · split at hf
            · rename_i hc; exact hc.2.1
            · cases hf
      · split at hd <;> cases hd

theorem listenStep_alive {h : Host} {e : Item} (hf : e.fault ≠ .fatal) :
    (listenStep h e).alive = true :=
  Bool.of_not_eq_false fun ha => hf (listenStep_dies ha)

theorem listen_append (h : Host) (pre post : List Item) (hp : (listen h pre).alive = true) :
    listen h (pre ++ post) = (listen h pre).andThen (listen (listen h pre).h post) := by
  induction pre generalizing h with
  | nil => rfl
  | cons e es ih =>
    rw [listen_cons] at hp
    rw [List.cons_append, listen_cons, listen_cons]
    split at hp
    · rename_i ha
      rw [if_pos ha, if_pos ha, ih _ hp, LRes.andThen_assoc]
      rfl
    · rename_i ha
      exact absurd hp ha

end Sio.PubSub
