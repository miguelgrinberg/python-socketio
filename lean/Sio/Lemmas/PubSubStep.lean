/-
  K6 (pub/sub): the cluster level.  What `Cluster.on` (one call on one host) and a drain pass do,
  as functions of the hosts' (id, room table) views, and what each public method of
  `PubSubManager` does on the host it is called on.
-/
import Sio.Lemmas.PubSubEffect
namespace Sio.PubSub
open Sio.Rooms

abbrev View := HostId × Rooms.St

def Cluster.views (c : Cluster) : List View := c.hosts.map Host.view

theorem flatMap_if_none {β : Type} (hosts : List Host) (via : HostId)
    (hno : via ∉ hosts.map Host.id) (g : Host → List β) :
    hosts.flatMap (fun h => if h.id = via then g h else []) = [] :=
  List.flatMap_eq_nil_iff.mpr fun x hx => if_neg fun he : x.id = via => hno (he ▸ List.mem_map_of_mem hx)

theorem flatMap_if_id {β : Type} (hosts : List Host) (hnd : (hosts.map Host.id).Nodup) (hv : Host)
    (hin : hv ∈ hosts) (g : Host → List β) :
    hosts.flatMap (fun h => if h.id = hv.id then g h else []) = g hv := by
  induction hosts with
  | nil => cases hin
  | cons a l ih =>
    simp only [List.map_cons, List.nodup_cons] at hnd
    rw [List.flatMap_cons]
    rcases List.mem_cons.mp hin with rfl | hin'
    · rw [flatMap_if_none l hv.id hnd.1, if_pos rfl, List.append_nil]
    · have hne : a.id ≠ hv.id := fun he => hnd.1 (he ▸ List.mem_map_of_mem hin')
      simp only [hne, if_false, List.nil_append]
      exact ih hnd.2 hin'

section on
variable (c : Cluster) (f : Host → Res)

theorem on_hosts (hid : HostId) :
    (c.on hid f).1.hosts = c.hosts.map (fun h => if h.id = hid then (f h).h else h) := rfl

theorem on_mem (hnd : (c.hosts.map Host.id).Nodup) {hv : Host} (hin : hv ∈ c.hosts) :
    (c.on hv.id f).1.chan = c.chan ++ (f hv).pubs ∧ (c.on hv.id f).2 = (f hv).outs :=
  ⟨congrArg (c.chan ++ ·) (flatMap_if_id c.hosts hnd hv hin _), flatMap_if_id c.hosts hnd hv hin _⟩

theorem on_not_mem {hid : HostId} (hex : hid ∉ c.hosts.map Host.id) :
    (c.on hid f).1.hosts = c.hosts ∧ (c.on hid f).1.chan = c.chan ∧ (c.on hid f).2 = [] := by
  refine ⟨?_, ?_, flatMap_if_none c.hosts hid hex _⟩
  · exact (List.map_congr_left fun h hh =>
      if_neg fun he : h.id = hid => hex (he ▸ List.mem_map_of_mem hh)).trans (List.map_id' _)
  · show c.chan ++ c.hosts.flatMap (fun h => if h.id = hid then (f h).pubs else []) = _
    rw [flatMap_if_none c.hosts hid hex, List.append_nil]

end on

/-- a client ACK is `apiAck` on the host where the session is connected, with the id that was asked
    for — or nothing at all -/
theorem step_ack (c : Cluster) (ns : Ns) (sid : Sid) (n : Nat) (args : List J) :
    step c (.ack ns sid n args) = (c, []) ∨
    ∃ hv ∈ c.hosts, ∃ i, step c (.ack ns sid n args) = c.on hv.id (fun h => apiAck h sid i args) := by
  simp only [step]
  cases hfind : c.hosts.find? (fun h => h.connected ns sid) with
  | none => exact .inl rfl
  | some hv =>
    cases nthAsked c.asked sid n with
    | none => exact .inl rfl
    | some i => exact .inr ⟨hv, List.mem_of_find?_eq_some hfind, i, rfl⟩

/-- what `f` must respect to be an API call on a host -/
structure ApiLike (f : Host → Res) (hosts : List Host) : Prop where
  id : ∀ h ∈ hosts, (f h).h.id = h.id
  cursor : ∀ h ∈ hosts, (f h).h.cursor = h.cursor
  inv : ∀ h ∈ hosts, Inv h.rooms → Inv (f h).h.rooms
  pubsOk : ∀ h ∈ hosts, EmitsOk (f h).pubs

/-- A drain pass from a state whose channel is `chan ++ P` with everything before `P` consumed up to
    callbacks. -/
theorem drain_effect (c1 : Cluster) (chan P : List Msg) (hc : c1.chan = chan ++ P)
    (hinv : ∀ h ∈ c1.hosts, Inv h.rooms) (hpend : Pending c1.hosts chan) (hok : EmitsOk c1.chan) :
    let d := step c1 .drain
    d.1.views = c1.hosts.map (fun h => (h.id, roomsAfterL h.id h.rooms P)) ∧
    Pending d.1.hosts d.1.chan ∧ EmitsOk d.1.chan ∧ d.1.wo = c1.wo ∧
    (∀ sid, seenBy sid d.2 = c1.hosts.flatMap (fun h => seenAfterL h.id h.rooms sid P)) ∧
    discEvents d.2 = c1.hosts.flatMap (fun h => discAfterL h.id h.rooms P) := by
  intro d
  have hcur1 : ∀ h ∈ c1.hosts, h.cursor ≤ c1.chan.length := by
    intro h hh
    rw [hc, List.length_append]
    have := (hpend h hh).1
    omega
  -- what a host has not consumed is `P` after callbacks
  obtain ⟨⟨B, hB, hBeq⟩, e2, e3, e4, e5⟩ := drainHosts_effect c1.chan c1.hosts (fun _ => P) hinv hcur1 hok
    fun x hx => by rw [hc, List.drop_append_of_le_length (hpend x hx).1, noCb_append,
      noCb_allCb (hpend x hx).2, List.nil_append]
  refine ⟨e2, e3, ?_, rfl, e4, e5⟩
  show EmitsOk (drainHosts c1.chan c1.hosts).2.2
  exact hBeq ▸ hok.append (.of_allCb hB)

theorem on_then_drain (c : Cluster) (hv : Host) (hin : hv ∈ c.hosts) (f : Host → Res)
    (hf : ApiLike f c.hosts)
    (hnd : (c.hosts.map Host.id).Nodup) (hinv : ∀ h ∈ c.hosts, Inv h.rooms)
    (hpend : Pending c.hosts c.chan) (hok : EmitsOk c.chan) :
    let r := c.on hv.id f
    let d := step r.1 .drain
    let P := (f hv).pubs
    d.1.views = c.hosts.map (fun h =>
      (h.id, roomsAfterL h.id (if h.id = hv.id then (f h).h.rooms else h.rooms) P)) ∧
    Pending d.1.hosts d.1.chan ∧ EmitsOk d.1.chan ∧ d.1.wo = c.wo ∧
    (∀ sid, seenBy sid (r.2 ++ d.2) = seenBy sid (f hv).outs ++
      c.hosts.flatMap (fun h =>
        seenAfterL h.id (if h.id = hv.id then (f h).h.rooms else h.rooms) sid P)) ∧
    discEvents (r.2 ++ d.2) = discEvents (f hv).outs ++
      c.hosts.flatMap (fun h =>
        discAfterL h.id (if h.id = hv.id then (f h).h.rooms else h.rooms) P) := by
  intro r d P
  obtain ⟨hr1c, hr2⟩ := on_mem c f hnd hin
  have hr1 := on_hosts c f hv.id
  have hinv1 : ∀ h ∈ r.1.hosts, Inv h.rooms := List.forall_mem_map.mpr fun x hx => by
    split
    · exact hf.inv x hx (hinv x hx)
    · exact hinv x hx
  have hpend1 : Pending r.1.hosts c.chan := List.forall_mem_map.mpr fun x hx => by
    split
    · rw [hf.cursor x hx]; exact hpend x hx
    · exact hpend x hx
  obtain ⟨e1, e2, e3, e4, e5, e6⟩ := drain_effect r.1 c.chan P hr1c hinv1 hpend1
    (hr1c ▸ hok.append (hf.pubsOk hv hin))
  -- the host `x` after the call: same id, the room table the call left
  have hid : ∀ x ∈ c.hosts, (if x.id = hv.id then (f x).h else x).id = x.id := by
    intro x hx
    split
    · exact hf.id x hx
    · rfl
  refine ⟨?_, e2, e3, e4, ?_, ?_⟩
  · rw [e1, hr1, List.map_map]
    apply List.map_congr_left
    intro x hx
    simp only [Function.comp, hid x hx, apply_ite Host.rooms]
  · intro sid
    rw [seenBy_append, hr2, e5 sid, hr1, List.flatMap_map]
    congr 1
    apply flatMap_congr'
    intro x hx
    simp only [hid x hx, apply_ite Host.rooms]
  · rw [discEvents_append, hr2, e6, hr1, List.flatMap_map]
    congr 1
    apply flatMap_congr'
    intro x hx
    simp only [hid x hx, apply_ite Host.rooms]

/-- the token that `PubSubManager.emit` puts into the message -/
def emitToken (h : Host) (ns : Ns) (to : Target) : Option Nat → Option (Str × Ns × Nat)
  | none => none
  | some _ => match to with
    | .one r => some (r, ns, h.ctr r + 1)
    | _ => none

theorem apiEmit_nocb (h : Host) (srv : Bool) (ev : Str) (d : Data) (ns : Ns) (to : Target)
    (skip : Skip) (hok : Target.ok to) :
    apiEmit h srv ev d ns to skip none =
      { h := (emitLocal h ns to skip.toList (.str ev) d.pack none).1,
        outs := (emitLocal h ns to skip.toList (.str ev) d.pack none).2,
        pubs := [Msg.emit h.id ev d ns to skip none] } := by
  have he := handleEmit_msg h h.id ev d ns to skip none hok
  simp only [apiEmit, he, relayOf, List.nil_append]

theorem apiEmit_cb (h : Host) (ev : Str) (d : Data) (ns : Ns) (r : Room) (skip : Skip) (tok : Nat) :
    apiEmit h true ev d ns (.one r) skip (some tok) =
      { h := (emitLocal (register h r (.user tok)).1 ns (.one r) skip.toList (.str ev) d.pack
                (some (.relay (some h.id) r ns (h.ctr r + 1)))).1,
        outs := (emitLocal (register h r (.user tok)).1 ns (.one r) skip.toList (.str ev) d.pack
                (some (.relay (some h.id) r ns (h.ctr r + 1)))).2,
        pubs := [Msg.emit h.id ev d ns (.one r) skip (some (r, ns, h.ctr r + 1))] } := by
  have he := handleEmit_msg (register h r (.user tok)).1 h.id ev d ns (.one r) skip
    (some (r, ns, h.ctr r + 1)) trivial
  simp only [apiEmit, Bool.not_true, Bool.false_eq_true, if_false]
  have hreg : (register h r (.user tok)).2 = h.ctr r + 1 := rfl
  simp only [hreg, he, relayOf, List.nil_append]

/-- `emit` through a host that is attached to a server, for the targets the API accepts -/
theorem apiEmit_effect (h : Host) (hinv : Inv h.rooms) (ev : Str) (d : Data) (ns : Ns) (to : Target)
    (skip : Skip) (cb : Option Nat) (hok : Target.ok to) (hcb : cb.isSome → ∃ r, to = .one r) :
    (apiEmit h true ev d ns to skip cb).h.rooms = h.rooms ∧
    (apiEmit h true ev d ns to skip cb).h.id = h.id ∧
    (apiEmit h true ev d ns to skip cb).h.cursor = h.cursor ∧
    (apiEmit h true ev d ns to skip cb).pubs = [Msg.emit h.id ev d ns to skip (emitToken h ns to cb)] ∧
    (emitToken h ns to cb).isSome = cb.isSome ∧
    (∀ sid, seenBy sid (apiEmit h true ev d ns to skip cb).outs =
      seenEmit h.rooms ns to skip.toList (.str ev) d.pack cb.isSome sid) ∧
    discEvents (apiEmit h true ev d ns to skip cb).outs = [] := by
  cases cb with
  | none =>
    rw [apiEmit_nocb h true ev d ns to skip hok]
    have hr := emitLocal_rooms h ns to skip.toList (.str ev) d.pack none
    refine ⟨hr.1, hr.2.1, hr.2.2, rfl, rfl, ?_, ?_⟩
    · intro sid; exact seenBy_emitLocal h hinv ..
    · exact discEvents_emitLocal ..
  | some tok =>
    obtain ⟨r, rfl⟩ := hcb rfl
    rw [apiEmit_cb]
    have hr := emitLocal_rooms (register h r (.user tok)).1 ns (.one r) skip.toList (.str ev) d.pack
      (some (.relay (some h.id) r ns (h.ctr r + 1)))
    refine ⟨hr.1, hr.2.1, hr.2.2, rfl, rfl, ?_, ?_⟩
    · intro sid
      exact seenBy_emitLocal (register h r (.user tok)).1 hinv ..
    · exact discEvents_emitLocal ..

/-- `emit` through the write-only manager (no clients, no callbacks) -/
theorem apiEmit_wo (w : Host) (hw : w.rooms = []) (ev : Str) (d : Data) (ns : Ns) (to : Target)
    (skip : Skip) (hok : Target.ok to) :
    apiEmit w false ev d ns to skip none =
      { h := w, pubs := [Msg.emit w.id ev d ns to skip none] } := by
  have hn : hasNs w.rooms ns = false := by rw [hw]; rfl
  rw [apiEmit_nocb w false ev d ns to skip hok]
  simp [emitLocal, hn]

theorem trigger_inv (fuel : Nat) (h : Host) (key : Str) (id : Nat) (args : Option (List J))
    (hinv : Inv h.rooms) : Inv (trigger fuel h key id args).h.rooms := by
  rw [(trigger_cbOnly ..).rooms]; exact hinv

theorem apiAck_eq (h : Host) (sid : Sid) (id : Nat) (args : List J) :
    apiAck h sid id args = trigger chainFuel h sid id (some args) := by
  simp only [apiAck, trigger_err_none]

theorem apiAck_effect (h : Host) (sid : Sid) (id : Nat) (args : List J) :
    CbOnly h (apiAck h sid id args) := apiAck_eq h sid id args ▸ trigger_cbOnly ..

/-- entries that no client notices -/
def Msg.silent : Msg → Bool
  | .emit .. => false
  | .disconnect .. => false
  | _ => true

theorem silent_single {m : Msg} (h : m.silent = true) : ∀ x ∈ [m], x.silent = true :=
  fun _ hx => List.mem_singleton.mp hx ▸ h

theorem EmitsOk.of_silent {ms : List Msg} (h : ∀ m ∈ ms, m.silent = true) : EmitsOk ms := by
  intro m hm o ev d ns to skip cb he
  have := h m hm
  subst he; cases this

/-- the room table of a host only ever knows sessions that live there -/
def HomeOk (home : Sid → HostId) (hid : HostId) (r : Rooms.St) : Prop := ∀ e ∈ r, home e.sid = hid

theorem HomeOk.filter {home : Sid → HostId} {hid : HostId} {r : Rooms.St} (h : HomeOk home hid r)
    (p : Entry → Bool) : HomeOk home hid (r.filter p) := fun e he => h e (List.mem_filter.mp he).1

theorem HomeOk.add {home : Sid → HostId} {hid : HostId} {r : Rooms.St} (h : HomeOk home hid r)
    {ns : Ns} {sid : Sid} {eio : Eio} (hq : eioOf r ns sid = some eio) (room : Option Room) :
    HomeOk home hid (Rooms.add r ⟨ns, room, sid, eio⟩) := by
  intro e he
  rcases mem_add.mp he with he | rfl
  · exact h e he
  · exact h ⟨ns, none, sid, eio⟩ (eioOf_some_mem hq)

/-- What a call of the manager's API does to the host it runs on, whatever the call: identity and
    cursor stay, the room table stays well formed and knows no session it did not know (`connect`
    apart, which brings `news`), every published emit names a proper target. -/
structure ApiOk (h : Host) (r : Res) (news : List Sid := []) : Prop where
  id : r.h.id = h.id
  cursor : r.h.cursor = h.cursor
  inv : Inv h.rooms → Inv r.h.rooms
  sids : Inv h.rooms → ∀ e ∈ r.h.rooms, (∃ e' ∈ h.rooms, e'.sid = e.sid) ∨ e.sid ∈ news
  pubsOk : EmitsOk r.pubs

theorem ApiOk.home {home : Sid → HostId} {h : Host} {r : Res} {news : List Sid} (ok : ApiOk h r news)
    (hinv : Inv h.rooms) (hh : HomeOk home h.id h.rooms) (hn : ∀ s ∈ news, home s = h.id) :
    HomeOk home h.id r.h.rooms := by
  intro e he
  rcases ok.sids hinv e he with ⟨e', he', hs⟩ | hs
  · rw [← hs]; exact hh e' he'
  · exact hn _ hs

theorem ApiLike.of_ok {f : Host → Res} {hosts : List Host} {news : List Sid}
    (hf : ∀ h, ApiOk h (f h) news) : ApiLike f hosts :=
  ⟨fun h _ => (hf h).id, fun h _ => (hf h).cursor, fun h _ => (hf h).inv, fun h _ => (hf h).pubsOk⟩

/-- a call that sends nothing and publishes room bookkeeping only -/
def Res.Silent (r : Res) : Prop := r.outs = [] ∧ ∀ m ∈ r.pubs, m.silent = true

theorem apiConnect_ok (h : Host) (ns : Ns) (eio : Eio) (sid : Sid) :
    ApiOk h (apiConnect h ns eio sid) [sid] ∧ (apiConnect h ns eio sid).Silent := by
  refine ⟨⟨rfl, rfl, fun hi => hi.apply (.connect ns eio sid), fun _ e he => ?_, EmitsOk.nil⟩, rfl, fun _ hm => (nomatch hm)⟩
  simp only [apiConnect, Rooms.apply] at he
  split at he
  · exact .inl ⟨e, he, rfl⟩
  · unfold Rooms.connect at he
    split at he
    · exact .inl ⟨e, he, rfl⟩
    · simp only [Option.getD_some] at he
      rcases mem_add.mp he with he | rfl
      · rcases mem_add.mp he with he | rfl
        · exact .inl ⟨e, he, rfl⟩
        · exact .inr (List.mem_singleton.mpr rfl)
      · exact .inr (List.mem_singleton.mpr rfl)

theorem apiEnter_ok (h : Host) (ns : Ns) (sid : Sid) (room : Room) :
    ApiOk h (apiEnter h ns sid room) ∧ (apiEnter h ns sid room).Silent := by
  unfold apiEnter
  split
  · rename_i eio hq
    refine ⟨⟨rfl, rfl, fun hi => hi.add (eioOf_some_mem hq), fun _ e he => .inl ?_, EmitsOk.nil⟩, rfl, fun _ hm => (nomatch hm)⟩
    rcases mem_add.mp he with he | rfl
    · exact ⟨e, he, rfl⟩
    · exact ⟨_, eioOf_some_mem hq, rfl⟩
  · have hs := silent_single (m := Msg.enterRoom h.id sid ns room) rfl
    exact ⟨⟨rfl, rfl, id, fun _ e he => .inl ⟨e, he, rfl⟩, .of_silent hs⟩, rfl, hs⟩

theorem apiLeave_ok (h : Host) (ns : Ns) (sid : Sid) (room : Room) :
    ApiOk h (apiLeave h ns sid room) ∧ (apiLeave h ns sid room).Silent := by
  unfold apiLeave
  split
  · exact ⟨⟨rfl, rfl, fun hi => hi.leave ns sid room,
      fun _ e he => .inl ⟨e, (List.mem_filter.mp he).1, rfl⟩, EmitsOk.nil⟩, rfl, fun _ hm => (nomatch hm)⟩
  · have hs := silent_single (m := Msg.leaveRoom h.id sid ns room) rfl
    exact ⟨⟨rfl, rfl, id, fun _ e he => .inl ⟨e, he, rfl⟩, .of_silent hs⟩, rfl, hs⟩

theorem apiClose_ok (h : Host) (ns : Ns) (room : Room) :
    ApiOk h (apiClose h ns room) ∧ (apiClose h ns room).Silent := by
  have hs := silent_single (m := Msg.closeRoom h.id ns room) rfl
  exact ⟨⟨rfl, rfl, fun hi => hi.closeRoom ns room,
    fun _ e he => .inl ⟨e, (List.mem_filter.mp he).1, rfl⟩, .of_silent hs⟩, rfl, hs⟩

theorem apiDisconnect_ok (h : Host) (ns : Ns) (sid : Sid) : ApiOk h (apiDisconnect h ns sid) := by
  unfold apiDisconnect
  split
  · obtain ⟨e1, e2, e3, _⟩ := localDisconnect_obs h sid ns
    refine ⟨e1, e2, fun hi => ?_, fun hi e he => .inl ?_, e3 ▸ EmitsOk.nil⟩
    · rw [localDisconnect_rooms h hi]; exact hi.disconnect ns sid
    · rw [localDisconnect_rooms h hi] at he; exact ⟨e, (List.mem_filter.mp he).1, rfl⟩
  · exact ⟨rfl, rfl, id, fun _ e he => .inl ⟨e, he, rfl⟩, fun m hm => by
      cases List.mem_singleton.mp hm; intro _ _ _ _ _ _ _ he; cases he⟩

theorem apiAck_ok (h : Host) (sid : Sid) (id : Nat) (args : List J) : ApiOk h (apiAck h sid id args) := by
  obtain ⟨e1, e2, e3, e4, _, _, _⟩ := apiAck_effect h sid id args
  exact ⟨e2, e3, fun hi => e1 ▸ hi, fun _ e he => .inl ⟨e, e1 ▸ he, rfl⟩, .of_allCb e4⟩

end Sio.PubSub
