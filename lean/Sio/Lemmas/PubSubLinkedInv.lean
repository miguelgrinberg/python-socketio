/-
  The invariant `Linked` between a drained cluster and the single reference server: the same number
  of outstanding asks per client; for every ask of a connected client the reference server's user
  callback exists iff the client's host holds the relay entry and the issuing host the user entry it
  points at; no entry above its counter.  `Rep` reads the tables of all hosts under one key.
-/
import Sio.Lemmas.PubSubLinked
namespace Sio.PubSub
open Sio.Rooms

/-- `C o i` is `callbacks[x][i]` of the host with id `o` (nothing for ids that are no host), `N o`
    its counter `ack_counters[x]` -/
def Rep (hosts : List Host) (x : Str) (C : HostId → Nat → Option Cb) (N : HostId → Nat) : Prop :=
  (∀ h ∈ hosts, (∀ i, C h.id i = h.cbs x i) ∧ N h.id = h.ctr x) ∧
  ∀ o, o ∉ hosts.map Host.id → ∀ i, C o i = none

def cbsAt (hosts : List Host) (x : Str) (o : HostId) (i : Nat) : Option Cb :=
  match hosts.find? (fun h => h.id = o) with
  | some h => h.cbs x i
  | none => none

def ctrAt (hosts : List Host) (x : Str) (o : HostId) : Nat :=
  match hosts.find? (fun h => h.id = o) with
  | some h => h.ctr x
  | none => 0

theorem rep_canonical {hosts : List Host} (hnd : (hosts.map Host.id).Nodup) (x : Str) :
    Rep hosts x (cbsAt hosts x) (ctrAt hosts x) := by
  refine ⟨?_, ?_⟩
  · intro h hh
    have := find_of_mem hnd hh
    exact ⟨fun i => by simp only [cbsAt, this], by simp only [ctrAt, this]⟩
  · intro o ho i
    have := find_none_of_not_mem ho
    simp only [cbsAt, this]

theorem map_id_eq {hosts : List Host} {G : Host → Host} (hGid : ∀ h ∈ hosts, (G h).id = h.id) :
    (hosts.map G).map Host.id = hosts.map Host.id := by
  rw [List.map_map]
  exact List.map_congr_left (fun h hh => hGid h hh)

section rep
variable {hosts : List Host} {C : HostId → Nat → Option Cb} {N : HostId → Nat} {x : Str} {o : HostId} {g : Host}

theorem Rep.host (hr : Rep hosts x C N) {i : Nat} {cb : Cb} (hc : C o i = some cb) :
    ∃ h ∈ hosts, h.id = o ∧ h.cbs x i = some cb := by
  by_cases ho : o ∈ hosts.map Host.id
  · obtain ⟨h, hh, rfl⟩ := List.mem_map.mp ho
    exact ⟨h, hh, rfl, by rw [← (hr.1 h hh).1]; exact hc⟩
  · rw [hr.2 o ho i] at hc; cases hc

theorem Rep.bound (hr : Rep hosts x C N) (hb : ∀ h ∈ hosts, h.Bounded) : ∀ o i, C o i ≠ none → i ≤ N o := by
  intro o i hne
  obtain ⟨cb, hc⟩ := Option.ne_none_iff_exists'.mp hne
  obtain ⟨h, hh, rfl, hcb⟩ := hr.host hc
  rw [(hr.1 h hh).2]
  exact hb h hh x i (by rw [hcb]; simp)

/-- `C o`, `N o` describe the table of `g` under key `x` -/
def RepAt (C : HostId → Nat → Option Cb) (N : HostId → Nat) (x : Str) (o : HostId) (g : Host) : Prop :=
  (∀ i, C o i = g.cbs x i) ∧ N o = g.ctr x

theorem RepAt.reg (h : RepAt C N x o g) (v : HostId) (cb : Cb) :
    RepAt (regC C N v cb) (regN N v) x o (if o = v then (register g x cb).1 else g) := by
  by_cases ho : o = v
  · subst ho
    rw [if_pos rfl]
    exact ⟨fun i => by simp only [regC, register_cbs, true_and, h.2, h.1 i],
      by simp only [regN, register_ctr, if_true, h.2]⟩
  · rw [if_neg ho]
    exact ⟨fun i => by simp only [regC, ho, false_and, if_false, h.1 i], by simp only [regN, ho, if_false, h.2]⟩

theorem RepAt.del (h : RepAt C N x o g) (v : HostId) (j : Nat) :
    RepAt (delC v j C) N x o (if o = v then delCb g x j else g) := by
  by_cases ho : o = v
  · subst ho
    rw [if_pos rfl]
    exact ⟨fun i => by simp only [delC, delCb, true_and, h.1 i], h.2⟩
  · rw [if_neg ho]
    exact ⟨fun i => by simp only [delC, ho, false_and, if_false, h.1 i], h.2⟩

theorem Rep.of_pointwise (G : Host → Host) (hGid : ∀ h ∈ hosts, (G h).id = h.id)
    (h1 : ∀ h ∈ hosts, RepAt C N x h.id (G h))
    (h2 : ∀ o, o ∉ hosts.map Host.id → ∀ i, C o i = none) : Rep (hosts.map G) x C N := by
  refine ⟨?_, ?_⟩
  · intro h' hh'
    obtain ⟨h, hh, rfl⟩ := List.mem_map.mp hh'
    rw [hGid h hh]
    exact h1 h hh
  · rw [map_id_eq hGid]; exact h2

theorem Rep.frame (hr : Rep hosts x C N) (G : Host → Host) (hGid : ∀ h ∈ hosts, (G h).id = h.id)
    (hG : ∀ h ∈ hosts, (G h).cbs x = h.cbs x ∧ (G h).ctr x = h.ctr x) : Rep (hosts.map G) x C N :=
  Rep.of_pointwise G hGid (fun h hh => by rw [RepAt, (hG h hh).1, (hG h hh).2]; exact hr.1 h hh) hr.2

end rep

structure Linked (home : Sid → HostId) (c : Cluster) (s : Single) : Prop where
  /-- every host has consumed the whole channel -/
  drained : ∀ h ∈ c.hosts, h.cursor = c.chan.length
  /-- a session id is connected to one namespace -/
  oneNs : ∀ e₁ ∈ s.srv.rooms, ∀ e₂ ∈ s.srv.rooms, e₁.sid = e₂.sid → e₁.ns = e₂.ns
  len : ∀ x, (askedOf c.asked x).length = (askedOf s.asked x).length
  bound : ∀ h ∈ c.hosts, h.Bounded
  sbound : s.srv.Bounded
  link : ∀ x, (∃ e ∈ s.srv.rooms, e.sid = x) → ∃ C N, Rep c.hosts x C N ∧
    KL C (N (home x)) (s.srv.cbs x) (s.srv.ctr x) x (home x)
      ((askedOf c.asked x).zip (askedOf s.asked x))

end Sio.PubSub
