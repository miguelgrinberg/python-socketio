/-
  K4 — noninterference (property C12), part 1: `strip t s` — the state without everything of
  transport `t` and without the script counters — is a well-formed state; hostile inputs change it
  only by advancing the session-id counter; what a bystander's frame reads from the state it reads
  from `strip t s` just as well.
-/
import Sio.Lemmas.ServerSess
import Sio.Lemmas.ServerConn
namespace Sio.Server
open Sio.Rooms

/-- handler outcomes that do not depend on how many handlers ran before (what the C12 harness
    uses: constant scripts) -/
structure Script.Stable (sc : Script) : Prop where
  conn : ∀ n m, sc.onConnect n = sc.onConnect m
  ev : ∀ n m, sc.onEvent n = sc.onEvent m
  disc : ∀ n m, sc.onDisconnect n = sc.onDisconnect m

/-- the state without transport `t`: its room entries, the callbacks and counters of its sessions,
    its environ, socket, partial packet, user sessions; and without script counters, background
    queue and `call()` bookkeeping (which frames never read).  The session-id counter is kept. -/
def strip (t : Eio) (s : Srv) : Srv :=
  { rooms := s.rooms.filter (fun e => e.eio != t),
    pending := s.pending,
    cbs := s.cbs.filter (fun c => !onT s.rooms t c.1),
    ctr := s.ctr.filter (fun c => !onT s.rooms t c.1),
    environ := s.environ.filter (· != t),
    binbuf := s.binbuf.filter (fun e => e.1 != t),
    sess := s.sess.filter (fun e => e.1 != t),
    socks := s.socks.filter (· != t),
    bg := [], nextSid := s.nextSid, nConn := 0, nEv := 0, nDisc := 0, nCall := 0, callDone := [] }

/-- a state that advanced only its session-id counter -/
def bump (n : Nat) (s : Srv) : Srv := { s with nextSid := s.nextSid + n }

theorem strip_bump (t : Eio) (n : Nat) (s : Srv) : strip t (bump n s) = bump n (strip t s) := rfl

theorem bump_zero (s : Srv) : bump 0 s = s := rfl

theorem bump_bump (a b : Nat) (s : Srv) : bump a (bump b s) = bump (b + a) s := by
  simp [bump, Nat.add_assoc]

theorem WF.bump {s : Srv} (h : WF s) (n : Nat) : WF (bump n s) :=
  { h with
    sidAlloc := fun e he => by
      obtain ⟨k, hk, hs⟩ := h.sidAlloc e he
      exact ⟨k, Nat.lt_of_lt_of_le hk (Nat.le_add_right _ _), hs⟩ }

theorem strip_of_view {t : Eio} {s s' : Srv} (hv : view t s' = view t s)
    (hp : s'.pending = s.pending) (hn : s.nextSid ≤ s'.nextSid) :
    strip t s' = bump (s'.nextSid - s.nextSid) (strip t s) := by
  obtain ⟨v1, v2, v3, v4, v6, v7, v5⟩ := view_fields hv
  simp only [strip, bump, v1, v2, v3, v4, v5, v6, v7, hp]
  congr 1
  omega

theorem strip_rooms_ne (t : Eio) (r : Rooms.St) : ∀ e ∈ r.filter (fun e => e.eio != t), e.eio ≠ t := by
  intro e he; simpa using (List.mem_filter.mp he).2

theorem onT_strip (t : Eio) (r : Rooms.St) (sid : Sid) :
    onT (r.filter (fun e => e.eio != t)) t sid = false :=
  not_onT_of_no_entry (strip_rooms_ne t r) sid

theorem sidLive_strip {s : Srv} {t : Eio} {sid : Sid} (hl : sidLive s.rooms sid)
    (hon : onT s.rooms t sid = false) : sidLive (s.rooms.filter (fun e => e.eio != t)) sid := by
  obtain ⟨ns, eio, he⟩ := hl
  exact ⟨ns, eio, List.mem_filter.mpr ⟨he, not_onT hon he rfl⟩⟩

theorem WF.strip {s : Srv} (h : WF s) (t : Eio) : WF (strip t s) := by
  have hsub : ∀ e ∈ (Server.strip t s).rooms, e ∈ s.rooms := fun e he =>
    (List.mem_filter.mp (show e ∈ s.rooms.filter (fun e => e.eio != t) from he)).1
  refine ⟨⟨?_, fun e he => h.sidAlloc e (hsub e he),
    fun e₁ h₁ e₂ h₂ => h.sidNs e₁ (hsub e₁ h₁) e₂ (hsub e₂ h₂), ?_, ?_, ?_, ?_, ?_, ?_, ?_⟩,
    h.pendingNil⟩
  · exact h.rooms.filter _ (fun e _ hp => hp)
  · intro c hc
    simp only [Server.strip, List.mem_filter] at hc
    exact sidLive_strip (h.cbsLive c hc.1) (by simpa using hc.2)
  · intro c hc
    simp only [Server.strip, List.mem_filter] at hc
    exact sidLive_strip (h.ctrLive c hc.1) (by simpa using hc.2)
  · intro c hc
    simp only [Server.strip, List.mem_filter] at hc
    simp only [Server.strip]
    rw [ctrOf_filter_onT (by simpa using hc.2)]
    exact h.cbsLe c hc.1
  · exact h.cbsNodup.sublist (List.Sublist.map _ List.filter_sublist)
  · exact h.binNodup.sublist (List.Sublist.map _ List.filter_sublist)
  · simp only [Server.strip, h.envSocks]
  · intro e he
    simp only [Server.strip, List.mem_filter] at he ⊢
    exact ⟨h.sessOpen e he.1, he.2⟩

theorem sidOf_strip {t t' : Eio} (hne : t' ≠ t) (s : Srv) (ns : Ns) :
    sidOf (strip t s).rooms ns t' = sidOf s.rooms ns t' := by
  simp only [sidOf, strip]
  rw [find_filter_of_imp]
  intro e _ hp
  simp only [decide_eq_true_eq] at hp
  rw [hp.2.2, bne_iff_ne]; exact hne

theorem mem_filter_ne {l : List Eio} {t t' : Eio} (hne : t' ≠ t) : t' ∈ l.filter (· != t) ↔ t' ∈ l := by
  rw [List.mem_filter, bne_iff_ne]
  exact and_iff_left hne

theorem sendTo_strip {t t' : Eio} (hne : t' ≠ t) (s : Srv) (p : Packet) :
    sendTo (strip t s) (some t') p = sendTo s (some t') p := by
  have : (strip t s).socks.contains t' = s.socks.contains t' := by
    rw [Bool.eq_iff_iff, List.contains_iff_mem, List.contains_iff_mem]
    exact mem_filter_ne hne
  unfold sendTo
  simp only [this]

theorem not_onT_of_sidOf {s : Srv} (h : WF s) {t t' : Eio} (hne : t' ≠ t) {ns : Ns} {sid : Sid}
    (hs : sidOf s.rooms ns t' = some sid) : onT s.rooms t sid = false := by
  obtain ⟨k, rfl, hb⟩ := boundTo_of_eioOf h (sidOf_eioOf h.rooms hs)
  exact not_onT_of_boundTo hb hne

theorem lostGo_nextSid {s : Srv} (h : WF s) (cfg : Cfg) (t : Eio) (reason : Str) (nss : List Ns) :
    (handleLost.go cfg t reason s [] nss).1.nextSid = s.nextSid :=
  lostGo_rel (R := fun a b _ => b.nextSid = a.nextSid) (fun _ => rfl) (fun h1 h2 => h2.trans h1)
    (fun s ns _ => by
      rcases handleDisconnect_state cfg s t ns reason with ⟨h1, _⟩ | ⟨sid, k, _, _, h1⟩ <;>
        rw [h1] <;> rfl) h nss

theorem strip_dropTransport (t : Eio) (s : Srv) : strip t (dropTransport s t) = strip t s := by
  simp only [strip, dropTransport, List.filter_filter, Bool.and_self]

/-- the hostile transport's own inputs: its frames, and engine.io opening / losing it -/
def ofT (t : Eio) : Input → Bool
  | .eioConnect t' => t' == t
  | .frame t' _ => t' == t
  | .eioLost t' _ => t' == t
  | _ => false

theorem ofT_cases {t : Eio} {i : Input} (h : ofT t i = true) :
    i = .eioConnect t ∨ (∃ v, i = .frame t v) ∨ ∃ r, i = .eioLost t r := by
  cases i <;> simp [ofT] at h ⊢ <;> exact h

theorem strip_hostile {s : Srv} (h : WF s) (dec : Str → Except Err (Packet × Nat)) (cfg : Cfg)
    {t : Eio} {i : Input} (hi : ofT t i = true) :
    ∃ d, strip t (step dec cfg s i).1 = bump d (strip t s) := by
  rcases ofT_cases hi with rfl | ⟨v, rfl⟩ | ⟨r, rfl⟩
  · refine ⟨0, ?_⟩
    rw [step]
    simp [strip, bump, List.filter_append]
  · have hw := h.step dec cfg (.frame t v)
    refine ⟨_, strip_of_view ?_ (hw.pendingNil.trans h.pendingNil.symm)
      (nextSid_mono h dec cfg [.frame t v])⟩
    rw [step]; exact view_handleFrame h dec cfg t v
  · rw [step, handleLost_eq]
    split
    · exact ⟨0, rfl⟩
    · have hw := h.lostGo cfg t r (namespacesOf s.rooms)
      exact ⟨_, (strip_dropTransport ..).trans (strip_of_view (view_lostGo h cfg t r _)
        (hw.pendingNil.trans h.pendingNil.symm) (Nat.le_of_eq (lostGo_nextSid h ..).symm))⟩

end Sio.Server
