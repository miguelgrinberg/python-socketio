/-
  K4 — containment of one transport's traffic (property C12): `view t s` forgets everything that
  is indexed by transport `t` or by a session of `t`, and the counters; a frame from `t` does
  not change it.
-/
import Sio.Lemmas.ServerEvent
namespace Sio.Server
open Sio.Rooms

/-- `sid` is a session of transport `t` -/
def onT (r : Rooms.St) (t : Eio) (sid : Sid) : Bool := r.any (fun e => e.sid = sid ∧ e.eio = t)

/-- What the rest of the world can see: everything indexed by transport `t` or by one of its
    sessions is erased, and so are the global counters (session-id counter, script counters) and
    the results delivered to `call()`s. -/
def view (t : Eio) (s : Srv) : Srv :=
  { rooms := s.rooms.filter (fun e => e.eio != t),
    pending := s.pending.filter (fun p => !onT s.rooms t p.2),
    cbs := s.cbs.filter (fun c => !onT s.rooms t c.1),
    ctr := s.ctr.filter (fun c => !onT s.rooms t c.1),
    environ := s.environ,
    binbuf := s.binbuf.filter (fun e => e.1 != t),
    sess := s.sess.filter (fun e => e.1 != t),
    socks := s.socks,
    bg := s.bg.filter (fun b => b.eio != t),
    nextSid := 0, nConn := 0, nEv := 0, nDisc := 0, nCall := s.nCall, callDone := [] }

theorem onT_iff {r : Rooms.St} {t : Eio} {sid : Sid} :
    onT r t sid = true ↔ ∃ e ∈ r, e.sid = sid ∧ e.eio = t := by
  simp [onT]

theorem view_congr {t : Eio} {s s' : Srv}
    (h1 : s'.rooms.filter (fun e => e.eio != t) = s.rooms.filter (fun e => e.eio != t))
    (h2 : s'.pending.filter (fun p => !onT s'.rooms t p.2) = s.pending.filter (fun p => !onT s.rooms t p.2))
    (h3 : s'.cbs.filter (fun c => !onT s'.rooms t c.1) = s.cbs.filter (fun c => !onT s.rooms t c.1))
    (h4 : s'.ctr.filter (fun c => !onT s'.rooms t c.1) = s.ctr.filter (fun c => !onT s.rooms t c.1))
    (h5 : s'.environ = s.environ)
    (h6 : s'.binbuf.filter (fun e => e.1 != t) = s.binbuf.filter (fun e => e.1 != t))
    (h7 : s'.sess.filter (fun e => e.1 != t) = s.sess.filter (fun e => e.1 != t))
    (h8 : s'.socks = s.socks)
    (h9 : s'.bg.filter (fun b => b.eio != t) = s.bg.filter (fun b => b.eio != t))
    (h10 : s'.nCall = s.nCall) : view t s' = view t s := by
  simp only [view, h1, h2, h3, h4, h5, h6, h7, h8, h9, h10]

theorem view_of_coreEq {t : Eio} {s s' : Srv} (h : CoreEq s' s)
    (hb : s'.bg.filter (fun b => b.eio != t) = s.bg.filter (fun b => b.eio != t)) :
    view t s' = view t s :=
  view_congr (by rw [h.rooms]) (by rw [h.rooms, h.pending]) (by rw [h.rooms, h.cbs])
    (by rw [h.rooms, h.ctr]) h.environ (by rw [h.binbuf]) (by rw [h.sess]) h.socks hb h.nCall

theorem view_set_binbuf {t : Eio} {s : Srv} {b : List (Eio × Partial)}
    (hb : b.filter (fun e => e.1 != t) = s.binbuf.filter (fun e => e.1 != t)) :
    view t { s with binbuf := b } = view t s :=
  view_congr rfl rfl rfl rfl rfl hb rfl rfl rfl rfl

theorem onT_congr {r r' : Rooms.St} {t : Eio} {sid : Sid}
    (h : ∀ e : Entry, e.sid = sid → e.eio = t → (e ∈ r' ↔ e ∈ r)) : onT r' t sid = onT r t sid := by
  rw [Bool.eq_iff_iff, onT_iff, onT_iff]
  exact exists_congr fun e => and_congr_left fun h1 => h e h1.1 h1.2

theorem onT_connected {s : Srv} (h : WF0 s) {ns : Ns} {t : Eio} {rooms' : Rooms.St}
    (hc : Rooms.connect s.rooms ns t (sidName s.nextSid) = some rooms') {sid : Sid}
    (hl : sidLive s.rooms sid) (t' : Eio) : onT rooms' t' sid = onT s.rooms t' sid :=
  onT_congr fun e h1 _ => (mem_connect hc e).trans
    (or_iff_left fun h3 => sid_ne_fresh h hl (by rcases h3 with rfl | rfl <;> exact h1.symm))

theorem filter_connected {s : Srv} {ns : Ns} {t : Eio} {sid : Sid} {rooms' : Rooms.St}
    (hc : Rooms.connect s.rooms ns t sid = some rooms') :
    rooms'.filter (fun e => e.eio != t) = s.rooms.filter (fun e => e.eio != t) := by
  unfold Rooms.connect at hc
  split at hc
  · cases hc
  · cases hc
    have key : ∀ (r : Rooms.St) (e : Entry), e.eio = t →
        (Rooms.add r e).filter (fun e => e.eio != t) = r.filter (fun e => e.eio != t) := by
      intro r e he
      unfold Rooms.add
      split
      · rfl
      · simp [List.filter_append, he]
    rw [key _ _ rfl, key _ _ rfl]

theorem view_connected {s : Srv} (h : WF s) {ns : Ns} {t : Eio} {rooms' : Rooms.St}
    (hc : Rooms.connect s.rooms ns t (sidName s.nextSid) = some rooms') :
    view t (connected s rooms') = view t s :=
  view_congr (filter_connected hc) (by simp [connected, h.pendingNil])
    (List.filter_congr fun c hcm => congrArg not (onT_connected h.toWF0 hc (h.cbsLive c hcm) t))
    (List.filter_congr fun c hcm => congrArg not (onT_connected h.toWF0 hc (h.ctrLive c hcm) t))
    rfl rfl rfl rfl rfl rfl

theorem onT_disconnect_ne {r : Rooms.St} {ns : Ns} {sid sid' : Sid} (hne : sid' ≠ sid) (t : Eio) :
    onT (Rooms.disconnect r ns sid) t sid' = onT r t sid' :=
  onT_congr fun e h1 _ => by simp [Rooms.disconnect, show e.sid ≠ sid from h1 ▸ hne]

theorem filter_disconnect {r : Rooms.St} (hi : Inv r) {ns : Ns} {sid : Sid} {t : Eio}
    (he : (⟨ns, none, sid, t⟩ : Entry) ∈ r) :
    (Rooms.disconnect r ns sid).filter (fun e => e.eio != t) = r.filter (fun e => e.eio != t) := by
  unfold Rooms.disconnect
  rw [List.filter_filter]
  apply List.filter_congr
  intro e hm
  by_cases h1 : e.ns = ns ∧ e.sid = sid
  · have := hi.sidEio e hm _ he h1.1 h1.2
    simp only at this
    simp [this]
  · simp [h1]

theorem view_mgrDisconnect {s : Srv} (h : WF s) {ns : Ns} {sid : Sid} {t : Eio}
    (he : (⟨ns, none, sid, t⟩ : Entry) ∈ s.rooms) :
    view t { mgrDisconnect s sid ns with pending := [] } = view t s := by
  have hon : onT s.rooms t sid = true := onT_iff.mpr ⟨_, he, rfl, rfl⟩
  have key : ∀ {α : Type} (l : List (Sid × α)),
      (l.filter (fun c => c.1 != sid)).filter (fun c => !onT (Rooms.disconnect s.rooms ns sid) t c.1) =
        l.filter (fun c => !onT s.rooms t c.1) := by
    intro α l
    rw [List.filter_filter]
    apply List.filter_congr
    intro c _
    by_cases hc : c.1 = sid
    · simp [hc, hon]
    · rw [onT_disconnect_ne hc]; simp [hc]
  exact view_congr (filter_disconnect h.rooms he) (by simp [h.pendingNil]) (key _) (key _)
    rfl rfl rfl rfl rfl rfl

theorem view_popCb {s : Srv} {sid : Sid} {t : Eio} (hon : onT s.rooms t sid = true) (i : Nat) :
    view t (popCb s sid i) = view t s := by
  refine view_congr rfl rfl ?_ rfl rfl rfl rfl rfl rfl rfl
  simp only [popCb]
  rw [List.filter_filter]
  apply List.filter_congr
  intro c _
  by_cases hc : c.1 = sid
  · simp [hc, hon]
  · simp [hc]

theorem onT_of_sidOf {r : Rooms.St} {ns : Ns} {t : Eio} {sid : Sid} (h : sidOf r ns t = some sid) :
    onT r t sid = true := onT_iff.mpr ⟨_, sidOf_some_mem h, rfl, rfl⟩

theorem view_handleConnect {s : Srv} (h : WF s) (cfg : Cfg) (t : Eio) (nsp : Option Str)
    (data : Option J) : view t (handleConnect cfg s t nsp data).1 = view t s := by
  rcases handleConnect_state cfg s t nsp data with h1 | ⟨rooms', k, _, hc, h1 | ⟨p, hp, h1⟩⟩
  · rw [h1]
  · rw [h1]
    exact (view_of_coreEq (core_fields rfl) rfl).trans (view_connected h hc)
  · rw [h1, refusedSt_eq h.toWF0 hc]
    refine view_congr rfl ?_ rfl rfl rfl rfl rfl rfl rfl rfl
    rcases hp with rfl | rfl <;> simp [h.pendingNil]

theorem view_handleDisconnect {s : Srv} (h : WF s) (cfg : Cfg) (t : Eio) (ns : Ns) (reason : Str) :
    view t (handleDisconnect cfg s t ns reason).1 = view t s := by
  rcases handleDisconnect_state cfg s t ns reason with ⟨h1, _⟩ | ⟨sid, k, hs, _, h1⟩
  · rw [h1]
  · rw [h1]
    refine (view_of_coreEq (s' := ending s sid ns k) (s := { mgrDisconnect s sid ns with pending := [] })
      (core_fields ?_) rfl).trans (view_mgrDisconnect h (sidOf_some_mem hs))
    simp [ending, mgrDisconnect, core, h.pendingNil]

/-- an event is queued for `t` (`async_handlers`) or the queue is left alone -/
theorem handleEvent_bg (cfg : Cfg) (s : Srv) (t : Eio) (nsp : Option Str) (id : Option Nat)
    (data : Option J) : (handleEvent cfg s t nsp id data).1.bg = s.bg ∨
      ∃ b : Bg, b.eio = t ∧ (handleEvent cfg s t nsp id data).1.bg = s.bg ++ [b] := by
  unfold handleEvent
  dsimp only
  split
  · exact .inl rfl
  · split
    · exact .inl rfl
    · split
      · exact .inl rfl
      · split
        · exact .inr ⟨_, rfl, rfl⟩
        · exact .inl (by rw [runHandler_eq])

theorem view_handleEvent (cfg : Cfg) (s : Srv) (t : Eio) (nsp : Option Str) (id : Option Nat)
    (data : Option J) : view t (handleEvent cfg s t nsp id data).1 = view t s := by
  refine view_of_coreEq (core_fields (handleEvent_core ..)) ?_
  rcases handleEvent_bg cfg s t nsp id data with h | ⟨b, hb, h⟩ <;> rw [h]
  simp [List.filter_append, hb]

theorem view_handleAck (s : Srv) (t : Eio) (nsp : Option Str) (id : Option Nat) (data : Option J) :
    view t (handleAck s t nsp id data).1 = view t s := by
  rcases handleAck_state s t nsp id data with
    h1 | ⟨sid, i, tok, hs, _, _, h1 | ⟨n, args, _, _, h1⟩⟩ <;> rw [h1]
  all_goals exact view_popCb (onT_of_sidOf hs) i

theorem view_frameState {t : Eio} {s s₀ : Srv} (h : s₀ = s ∨ s₀ = dropBin s t) :
    view t s₀ = view t s := by
  rcases h with rfl | rfl
  · rfl
  · exact view_set_binbuf (by simp [List.filter_filter])

/-- **a frame from `t` does not change what the others see** -/
theorem view_handleFrame {s : Srv} (h : WF s) (dec : Str → Except Err (Packet × Nat)) (cfg : Cfg)
    (t : Eio) (v : J) : view t (handleFrame dec cfg s t v).1 = view t s :=
  frame_cases (motive := fun r => view t r.1 = view t s) (fun _ => rfl)
    (fun _ _ _ => view_set_binbuf (filter_setBin ..))
    (fun hc => (view_handleEvent ..).trans (view_frameState hc.state))
    (fun hc => (view_handleAck ..).trans (view_frameState hc.state))
    (fun _ _ => view_handleConnect h ..) (fun _ => view_handleDisconnect h ..)
    (fun _ _ _ => view_set_binbuf (by simp [List.filter_append]))

theorem find_filter_of_imp {α : Type} (l : List α) (p q : α → Bool)
    (h : ∀ x ∈ l, p x = true → q x = true) : (l.filter q).find? p = l.find? p := by
  induction l with
  | nil => rfl
  | cons a l ih =>
    have ih' := ih (fun x hx => h x (List.mem_cons_of_mem _ hx))
    simp only [List.filter_cons]
    by_cases hq : q a = true
    · simp only [hq, if_true, List.find?_cons]; rw [ih']
    · have hp : p a = false := by
        rw [Bool.eq_false_iff]; intro hp; exact hq (h a List.mem_cons_self hp)
      simp only [hq, Bool.false_eq_true, if_false, List.find?_cons, hp]; exact ih'

theorem not_onT {r : Rooms.St} {t : Eio} {sid : Sid} (h : onT r t sid = false) {e : Entry}
    (he : e ∈ r) (hs : e.sid = sid) : (e.eio != t) = true := by
  rw [bne_iff_ne]
  intro h2
  rw [onT_iff.mpr ⟨e, he, hs, h2⟩] at h
  cases h

theorem getRooms_filter {r : Rooms.St} {t : Eio} {sid : Sid} (h : onT r t sid = false) (ns : Ns) :
    getRooms (r.filter (fun e => e.eio != t)) ns sid = getRooms r ns sid := by
  have hno : ∀ e ∈ r, e.ns = ns ∧ e.sid = sid → (e.eio != t) = true :=
    fun e he hs => not_onT h he hs.2
  unfold getRooms
  clear h
  induction r with
  | nil => rfl
  | cons a r ih =>
    have ih' := ih (fun e he => hno e (List.mem_cons_of_mem _ he))
    by_cases hs : a.ns = ns ∧ a.sid = sid
    · simp only [List.filter_cons, hno a List.mem_cons_self hs, if_true, List.filterMap_cons, ih']
    · cases hq : (a.eio != t) <;>
        simp only [List.filter_cons, hq, if_true, Bool.false_eq_true, if_false, List.filterMap_cons,
          hs, ih']

theorem eioOf_filter {r : Rooms.St} {t : Eio} {sid : Sid} (h : onT r t sid = false) (ns : Ns) :
    eioOf (r.filter (fun e => e.eio != t)) ns sid = eioOf r ns sid := by
  unfold eioOf
  rw [find_filter_of_imp]
  intro e he hp
  simp only [decide_eq_true_eq] at hp
  exact not_onT h he hp.2.2

theorem ctrOf_filter_onT {c : List (Sid × Nat)} {r : Rooms.St} {t : Eio} {sid : Sid}
    (h : onT r t sid = false) : ctrOf (c.filter (fun x => !onT r t x.1)) sid = ctrOf c sid := by
  unfold ctrOf
  rw [find_filter_of_imp]
  intro x _ hx
  simp only [decide_eq_true_eq] at hx
  rw [hx, h]; rfl

theorem cbs_filter_onT {c : List (Sid × Nat × CbTok)} {r : Rooms.St} {t : Eio} {sid : Sid}
    (h : onT r t sid = false) :
    (c.filter (fun x => !onT r t x.1)).filter (fun x => x.1 == sid) = c.filter (fun x => x.1 == sid) := by
  rw [List.filter_filter]
  apply List.filter_congr
  intro x _
  by_cases hx : x.1 = sid
  · simp [hx, h]
  · simp [hx]

theorem sessGet_filter {l : List (Eio × Ns × J)} {t t' : Eio} (hne : t' ≠ t) (ns : Ns) :
    ((l.filter (fun e => e.1 != t)).find? (fun e => e.1 = t' ∧ e.2.1 = ns)) =
      l.find? (fun e => e.1 = t' ∧ e.2.1 = ns) := by
  apply find_filter_of_imp
  intro e _ hp
  simp only [decide_eq_true_eq] at hp
  rw [hp.1, bne_iff_ne]; exact hne

theorem view_fields {t : Eio} {s s' : Srv} (h : view t s' = view t s) :
    s'.rooms.filter (fun e => e.eio != t) = s.rooms.filter (fun e => e.eio != t) ∧
    s'.cbs.filter (fun c => !onT s'.rooms t c.1) = s.cbs.filter (fun c => !onT s.rooms t c.1) ∧
    s'.ctr.filter (fun c => !onT s'.rooms t c.1) = s.ctr.filter (fun c => !onT s.rooms t c.1) ∧
    s'.environ = s.environ ∧
    s'.binbuf.filter (fun e => e.1 != t) = s.binbuf.filter (fun e => e.1 != t) ∧
    s'.sess.filter (fun e => e.1 != t) = s.sess.filter (fun e => e.1 != t) ∧
    s'.socks = s.socks := by
  simp only [view, Srv.mk.injEq] at h
  exact ⟨h.1, h.2.2.1, h.2.2.2.1, h.2.2.2.2.1, h.2.2.2.2.2.1, h.2.2.2.2.2.2.1, h.2.2.2.2.2.2.2.1⟩

/-- Two states with the same view: every public query about a session that is not on `t` — its
    rooms, its transport, its outstanding callbacks, its ack counter — and about the stored
    sessions of every other transport gives the same answer. -/
theorem bystander_of_view {t : Eio} {s s' : Srv} (hv : view t s' = view t s) {sid : Sid}
    (h1 : onT s.rooms t sid = false) (h2 : onT s'.rooms t sid = false) :
    (∀ ns, getRooms s'.rooms ns sid = getRooms s.rooms ns sid) ∧
    (∀ ns, eioOf s'.rooms ns sid = eioOf s.rooms ns sid) ∧
    s'.cbs.filter (fun x => x.1 == sid) = s.cbs.filter (fun x => x.1 == sid) ∧
    ctrOf s'.ctr sid = ctrOf s.ctr sid ∧
    (∀ t' ns, t' ≠ t → sessGet s' t' ns = sessGet s t' ns) := by
  obtain ⟨v1, v2, v3, _, _, v7, _⟩ := view_fields hv
  refine ⟨?_, ?_, ?_, ?_, ?_⟩
  · intro ns; rw [← getRooms_filter h2, v1, getRooms_filter h1]
  · intro ns; rw [← eioOf_filter h2, v1, eioOf_filter h1]
  · rw [← cbs_filter_onT h2, v2, cbs_filter_onT h1]
  · rw [← ctrOf_filter_onT h2, v3, ctrOf_filter_onT h1]
  · intro t' ns hne
    unfold sessGet
    rw [← sessGet_filter hne, v7, sessGet_filter hne]

/-- `sidName k` is allocated and every room entry it has is on transport `t'`: preserved by every
    primitive change, so a bystander's session is never on the hostile transport (C12
    `bystander_unchanged`, `not_onT_of_sidOf`). -/
def BoundTo (k : Nat) (t' : Eio) (s : Srv) : Prop :=
  k < s.nextSid ∧ ∀ e ∈ s.rooms, e.sid = sidName k → e.eio = t'

theorem BoundTo.prim {k : Nat} {t' : Eio} {s s' : Srv} (p : Prim s s')
    (h : BoundTo k t' s) : BoundTo k t' s' := by
  obtain ⟨hk, hb⟩ := h
  cases p with
  | core hq => have := core_fields hq; exact ⟨this.nextSid ▸ hk, this.rooms ▸ hb⟩
  | disc _ hq =>
    have := core_fields hq
    refine ⟨this.nextSid ▸ hk, ?_⟩
    rw [this.rooms]
    intro e he
    exact hb e (List.mem_filter.mp he).1
  | connect hc =>
    refine ⟨Nat.lt_succ_of_lt hk, ?_⟩
    intro e he hs
    rcases (mem_connect hc e).mp he with h1 | rfl | rfl
    · exact hb e h1 hs
    all_goals have := sidName_inj hs; omega
  | rooms _ hsub _ =>
    refine ⟨hk, ?_⟩
    intro e he hs
    obtain ⟨e', he', h1, _, h3⟩ := hsub e he
    rw [← h3]; exact hb e' he' (h1.trans hs)
  | sess ns v _ => unfold sessSet; split <;> exact ⟨hk, hb⟩
  | bumpCall | callDone _ _ | cbsFilter _ | addCb _ _ _ | binbuf _ | eioConnect _ | drop _ =>
    exact ⟨hk, hb⟩

theorem boundTo_of_eioOf {s : Srv} (h : WF s) {ns : Ns} {sid : Sid} {t' : Eio}
    (he : eioOf s.rooms ns sid = some t') : ∃ k, sid = sidName k ∧ BoundTo k t' s := by
  obtain ⟨k, hk, hs⟩ := h.sidAlloc _ (eioOf_some_mem he)
  simp only at hs
  refine ⟨k, hs, hk, ?_⟩
  intro e hm heq
  have hns := h.sidNs e hm _ (eioOf_some_mem he) (heq.trans hs.symm)
  exact h.rooms.sidEio e hm _ (eioOf_some_mem he) hns (heq.trans hs.symm)

theorem not_onT_of_boundTo {k : Nat} {t t' : Eio} {s : Srv} (h : BoundTo k t' s) (hne : t' ≠ t) :
    onT s.rooms t (sidName k) = false := by
  rw [Bool.eq_false_iff]
  intro hc
  obtain ⟨e, he, h1, h2⟩ := onT_iff.mp hc
  exact hne ((h.2 e he h1).symm.trans h2)

end Sio.Server
