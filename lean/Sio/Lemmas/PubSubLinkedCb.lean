/-
  The operations that remove entries from callback tables keep `Linked`: `disconnect` (the session's
  entries go) and the client's ACK (relay, user entry and the reference server's entry go; exactly
  the linked callback runs).
-/
import Sio.Lemmas.PubSubLinkedOps
namespace Sio.PubSub
open Sio.Rooms

section ops
variable {home : Sid → HostId} {ehome : Eio → HostId} {c : Cluster} {s : Single}

theorem on_disconnect (hnd : (c.hosts.map Host.id).Nodup)
    (hdr : ∀ h ∈ c.hosts, h.cursor = c.chan.length) (hv : Host) (hin : hv ∈ c.hosts) (ns : Ns) (x : Sid)
    (f : Host → Res) (hf : f hv = apiDisconnect hv ns x) :
    ∃ G, Moves c G (onSync c hv f).2
        (onSync c hv f).1 ∧
      (∀ h ∈ c.hosts, G h = h ∨ (h.connected ns x = true ∧ G h = dropSid h ns x)) ∧
      cbEvents (onSync c hv f).2 = [] := by
  by_cases hc : hv.connected ns x = true
  · -- the session lives on the host that was asked
    obtain ⟨eio, hq⟩ := Option.isSome_iff_exists.mp hc
    have hfv : f hv =
        { h := dropSid hv ns x, outs := [.sendDisc hv.id x eio ns, .discHandler hv.id x ns] } := by
      rw [hf, apiDisconnect, if_pos hc, localDisconnect, hq]
    have key : ∀ h, synced hv f h =
        { h := if h.id = hv.id then dropSid hv ns x else h } := by
      intro h; simp only [synced, hfv]; rfl
    obtain ⟨hm, ho⟩ := on_moves c hnd hdr hv hin f
      (by simp only [hfv]; rfl) (fun h _ => by rw [key h])
    refine ⟨_, hm, hosts_cases hnd hin (Or.inr ⟨hc, ?_⟩) (fun h _ hid => Or.inl ?_), ?_⟩
    · simp only [key, if_pos]
    · simp only [key, if_neg hid]
    · simp only [ho, cbEvents_append, hfv]
      exact cbEvents_flatMap_nil _ _ (fun h _ => by rw [key h]; rfl)
  · -- it lives elsewhere (or nowhere): the request is published, the asked host skips its own entry
    have hfv : f hv = { h := hv, pubs := [Msg.disconnect hv.id x ns] } := by
      rw [hf, apiDisconnect, if_neg hc]
    have hself : synced hv f hv = { h := hv } := by
      rw [synced_self_own (m := Msg.disconnect hv.id x ns) (by simp only [hfv]) (by simp only [hfv]) rfl rfl]
      simp only [hfv]
    have hoth : ∀ h : Host, h.id ≠ hv.id → synced hv f h =
        catchUp h [Msg.disconnect hv.id x ns] := by
      intro h hid; simp only [synced_other _ hid, hfv]
    have hl := fun h => listenMsg_disconnect h hv.id x ns
    obtain ⟨hm, ho⟩ := on_moves c hnd hdr hv hin f
      (by simp only [hfv])
      (hosts_cases hnd hin (by rw [hself])
        (fun h _ hid => by rw [hoth h hid]; exact (catchUp_one h _).2.2.trans (hl h).1))
    refine ⟨_, hm, hosts_cases hnd hin (Or.inl ?_) (fun h _ hid => ?_), ?_⟩
    · simp only [hself]
    · simp only [hoth h hid, (catchUp_one h (Msg.disconnect hv.id x ns)).1]
      exact (hl h).2.2
    · simp only [ho, cbEvents_append, hfv]
      exact cbEvents_flatMap_nil _ _ (hosts_cases hnd hin (by rw [hself]; rfl)
        (fun h _ hid => by rw [hoth h hid, (catchUp_one h _).2.1]; exact (hl h).2.1))

theorem linked_disconnect (hs : Sim home ehome c s) (hl : Linked home c s) (via : HostId) (ns : Ns)
    (x : Sid) (hop : OpOk home ehome (c.views.map Prod.fst) (.disconnect via ns x)) :
    StepGoal home c s (.disconnect via ns x) := by
  obtain ⟨hv, hin, rfl⟩ := exists_host_of_id hop
  have hseen := (sim_step hs (.disconnect hv.id ns x) hop).2.1
  obtain ⟨G, hm, hG, hcb⟩ := on_disconnect hs.ids hl.drained hv hin ns x
    (fun h => apiDisconnect h ns x) rfl
  obtain ⟨hscb, hsask, _, hsd⟩ := localDisconnect_single s.srv x ns
  have hsrv : (s.step (.disconnect hv.id ns x)).1.srv = (localDisconnect s.srv x ns).h := rfl
  rcases hsd with ⟨hq, a⟩ | ⟨hq, a⟩
  · -- not connected to this namespace, anywhere: nothing changes
    have hall := (union_eioOf_none hs.placed hs.union hs.sinv ns x).mp hq
    have hG' : ∀ h ∈ c.hosts, G h = h := fun h hh => (hG h hh).resolve_right (fun hc => by
      have hn : eioOf h.rooms ns x = none := hall h.view (view_mem hh)
      exact absurd hc.1 (by rw [Host.connected, hn]; exact Bool.false_ne_true))
    exact linked_frame hs hl _ trivial hm (fun h hh => by rw [hG' h hh]; exact ⟨rfl, rfl, rfl⟩) hcb hseen
      (by rw [hsrv, a]; exact ⟨rfl, rfl⟩) hsask hscb
  · -- connected: afterwards the session is gone
    refine ⟨?_, hcb.trans hscb.symm, Or.inl hscb⟩
    refine linked_keyed hs hl _ trivial hm ?_ hseen (· = x) ?_ ?_ (fun y _ => congrArg (askedOf · y) hsask) ?_ ?_ ?_
    · intro h hh
      rcases hG h hh with e | ⟨_, e⟩ <;> rw [e] <;> rfl
    · intro h hh y hy
      rcases hG h hh with e | ⟨_, e⟩ <;> rw [e]
      · exact ⟨rfl, rfl⟩
      · exact dropSid_cbs_ne h ns x hy
    · intro y hy
      rw [hsrv, a]
      exact dropSid_cbs_ne s.srv ns x hy
    · intro h hh
      rcases hG h hh with e | ⟨_, e⟩ <;> rw [e]
      · exact hl.bound h hh
      · exact dropSid_bounded (hl.bound h hh) ns x
    · rw [hsrv, a]
      exact dropSid_bounded hl.sbound ns x
    · rintro k hk ⟨e, he, hex⟩
      obtain rfl := hk.symm
      rw [single_step_rooms (s := s) hs.sinv] at he
      obtain ⟨hmem, hflt⟩ := List.mem_filter.mp he
      obtain ⟨eio, hq'⟩ := Option.isSome_iff_exists.mp hq
      have hns : e.ns = ns := hl.oneNs e hmem _ (eioOf_some_mem hq') hex
      simp [hns, hex] at hflt

/-- what an acknowledged, linked position removes: the relay on the client's host `Hid`, the user
    entry on the issuing host `Oid` -/
def ackDel (Hid Oid : HostId) (x : Str) (ic id0 : Nat) (h : Host) : Host :=
  let h1 := if h.id = Hid then delCb h x ic else h
  if h.id = Oid then delCb h1 x id0 else h1

theorem ackDel_only (Hid Oid : HostId) (x : Str) (ic id0 : Nat) (h : Host) :
    OnlyKey x h (ackDel Hid Oid x ic id0 h) :=
  (OnlyKey.delIf (h.id = Hid) x ic h).trans (OnlyKey.delIf (h.id = Oid) x id0 _)

theorem on_ack_live (hnd : (c.hosts.map Host.id).Nodup)
    (hdr : ∀ h ∈ c.hosts, h.cursor = c.chan.length) (H O : Host) (hH : H ∈ c.hosts) (hO : O ∈ c.hosts)
    (x : Sid) (ic : Nat) (args : List J) (n' : Ns) (id0 t : Nat)
    (hrel : H.cbs x ic = some (.relay (some O.id) x n' id0)) (huser : O.cbs x id0 = some (.user t))
    (f : Host → Res) (hf : ∀ h, f h = apiAck h x ic args) :
    Moves c (ackDel H.id O.id x ic id0) (onSync c H f).2
      (onSync c H f).1 ∧
    cbEvents (onSync c H f).2 = [(t, args)] := by
  by_cases hsame : O.id = H.id
  · -- the issuing host is the client's own host
    obtain rfl : O = H := eq_of_map_eq hnd hO hH hsame
    have hne : ¬ (id0 = ic) := by
      rintro rfl
      rw [hrel] at huser; cases huser
    have hdel : (delCb O x ic).cbs x id0 = some (.user t) := by
      rw [← huser]; simp [delCb, hne]
    have hack : f O =
        { h := delCb (delCb O x ic) x id0, outs := [.callback O.id t args] } := by
      rw [hf, apiAck_eq]
      exact (trigger_relay_local hrel).trans
        (trigger_user hdel)
    have key : ∀ h, synced O f h =
        { h := if h.id = O.id then delCb (delCb O x ic) x id0 else h } := by
      intro h; simp only [synced, hack]; rfl
    obtain ⟨hm, ho⟩ := on_moves c hnd hdr O hH f
      (by simp only [hack]; rfl) (fun h _ => by rw [key h])
    refine ⟨hm.congr (hosts_cases hnd hH ?_ (fun h _ hid => ?_)), ?_⟩
    · simp only [key, ackDel, if_pos]
    · simp only [key, ackDel, if_neg hid]
    · simp only [ho, cbEvents_append, hack]
      rw [cbEvents_flatMap_nil _ _ (fun h _ => by rw [key h]; rfl)]
      rfl
  · -- the acknowledgement travels the channel to the issuing host
    have ho : (some O.id : Option HostId) ≠ some H.id := by simpa using hsame
    have hHO : ¬ H.id = O.id := fun e => hsame e.symm
    have hack : f H =
        { h := delCb H x ic, pubs := [.callback (some O.id) x n' id0 args] } := by
      rw [hf, apiAck_eq]
      exact trigger_relay_remote hrel ho
    have hres : ∀ h ∈ c.hosts,
        (synced H f h).h = ackDel H.id O.id x ic id0 h ∧
        (synced H f h).pubs = [] ∧
        (synced H f h).outs =
          if h.id = O.id then [.callback O.id t args] else [] := by
      refine hosts_cases hnd hH ?_ (fun h hh hid => ?_)
      · have l : listenMsg (delCb H x ic) (.callback (some O.id) x n' id0 args) = { h := delCb H x ic } :=
          (listenMsg_callback _ _ _ _ _ _).trans (if_neg ho)
        simp [synced_self, hack, catchUp, l, ackDel, hHO]
      · simp only [synced_other _ hid, hack, catchUp, ackDel, if_neg hid]
        by_cases hv' : h.id = O.id
        · obtain rfl : h = O := eq_of_map_eq hnd hh hO hv'
          have l : listenMsg h (.callback (some h.id) x n' id0 args) =
              { h := delCb h x id0, outs := [.callback h.id t args] } :=
            (listenMsg_callback _ _ _ _ _ _).trans ((if_pos rfl).trans (trigger_user huser))
          simp [l]
        · have l : listenMsg h (.callback (some O.id) x n' id0 args) = { h := h } :=
            (listenMsg_callback _ _ _ _ _ _).trans (if_neg (by simpa using fun he : O.id = h.id => hv' he.symm))
          simp [l, hv']
    obtain ⟨hm, ho'⟩ := on_moves c hnd hdr H hH f
      (by simp only [hack]; rfl) (fun h hh => (hres h hh).2.1)
    refine ⟨hm.congr (fun h hh => (hres h hh).1), ?_⟩
    simp only [ho', cbEvents_append, hack]
    rw [flatMap_congr' (fun h hh => (hres h hh).2.2),
      flatMap_if_id c.hosts hnd O hO (fun _ => [Out.callback O.id t args])]
    rfl

/-- The two sides look an acknowledgement up alike: the cluster finds the client's host and the id it
    asked for at position `n` exactly when the reference server has the client connected and an id at
    that position (`Linked.len`); otherwise neither does anything. -/
theorem ack_lookup (hs : Sim home ehome c s) (hl : Linked home c s) (ns : Ns) (x : Sid) (n : Nat)
    (args : List J) :
    (step c (.ack ns x n args) = (c, []) ∧
      s.step (.ack ns x n args) = ({ srv := s.srv, asked := s.asked ++ [] }, [])) ∨
    ∃ H ∈ c.hosts, ∃ ic is eio, eioOf H.rooms ns x = some eio ∧ eioOf s.srv.rooms ns x = some eio ∧
      (ic, is) ∈ (askedOf c.asked x).zip (askedOf s.asked x) ∧
      step c (.ack ns x n args) = c.on H.id (fun h => apiAck h x ic args) ∧
      s.step (.ack ns x n args) =
        ({ srv := (apiAck s.srv x is args).h, asked := s.asked ++ askedIn (apiAck s.srv x is args).outs },
          (apiAck s.srv x is args).outs) := by
  have hlen := hl.len x
  cases hfind : c.hosts.find? (fun h => h.connected ns x) with
  | none =>
    have hall : ∀ v ∈ c.views, eioOf v.2 ns x = none := by
      intro v hv
      obtain ⟨h, hh, rfl⟩ := List.mem_map.mp hv
      simpa [Host.connected, Host.view] using List.find?_eq_none.mp hfind h hh
    have hnc : s.srv.connected ns x = false := by
      simp [Host.connected, (union_eioOf_none hs.placed hs.union hs.sinv ns x).mpr hall]
    exact Or.inl ⟨by rw [step, hfind], by simp [Single.step, hnc, askedIn]⟩
  | some H =>
    have hH : H ∈ c.hosts := List.mem_of_find?_eq_some hfind
    obtain ⟨eio, hq⟩ := Option.isSome_iff_exists.mp
      (show H.connected ns x = true by simpa using List.find?_some hfind)
    have hsq := (union_eioOf hs.placed hs.union hs.sinv ns x eio).mpr ⟨H.view, view_mem hH, hq⟩
    have hsc : s.srv.connected ns x = true := by simp [Host.connected, hsq]
    cases hnth : nthAsked c.asked x n with
    | none =>
      have hsn : nthAsked s.asked x n = none := by
        rw [nthAsked_eq, List.getElem?_eq_none_iff] at hnth ⊢
        omega
      exact Or.inl ⟨by rw [step, hfind, hnth], by simp [Single.step, hsc, hsn, askedIn]⟩
    | some ic =>
      rw [nthAsked_eq] at hnth
      have hlt : n < (askedOf s.asked x).length := by
        have := (List.getElem?_eq_some_iff.mp hnth).1
        omega
      have hsn := List.getElem?_eq_getElem hlt
      exact Or.inr ⟨H, hH, ic, _, eio, hq, hsq,
        List.mem_of_getElem? (List.getElem?_zip_eq_some.mpr ⟨hnth, hsn⟩),
        by rw [step, hfind, nthAsked_eq, hnth], by simp [Single.step, hsc, nthAsked_eq, hsn]⟩

theorem linked_ack (hs : Sim home ehome c s) (hl : Linked home c s) (ns : Ns) (x : Sid) (n : Nat)
    (args : List J) : StepGoal home c s (.ack ns x n args) := by
  have hseen := (sim_step hs (.ack ns x n args) trivial).2.1
  have hsobs := single_ack_obs (s := s) ns x n args
  rcases ack_lookup hs hl ns x n args with ⟨h2, h1⟩ | ⟨H, hH, ic, is, eio, hq, hsq, hp, hst, hsst⟩
  · -- nothing happens in the step itself; the drain finds nothing
    obtain ⟨hm, ho⟩ := drain_moves c c.chan [] (List.append_nil _).symm hl.drained (fun _ _ => rfl)
    unfold StepGoal stepSync
    rw [h2] at hseen ⊢
    exact linked_frame hs hl _ trivial hm (fun h _ => ⟨rfl, rfl, rfl⟩)
      (by rw [ho]; exact cbEvents_flatMap_nil _ _ (fun _ _ => rfl)) hseen (by rw [h1]; exact ⟨rfl, rfl⟩)
      hsobs.2.2 (by rw [h1]; rfl)
  · have hhome : home x = H.id := hs.placed.home H.view (view_mem hH) _ (eioOf_some_mem hq)
    obtain ⟨C, N, hrep, hkl⟩ := hl.link x ⟨_, eioOf_some_mem hsq, rfl⟩
    have hC : ∀ i, C (home x) i = H.cbs x i := hhome ▸ (hrep.1 H hH).1
    rcases hkl.pair _ hp with ⟨d1, d2⟩ | ⟨t, o, n', id0, l1, l2, l3⟩
    · -- a spent position: nothing happens on either side
      have hackH : apiAck H x ic args = { h := H } := by
        rw [apiAck_eq, trigger_absent ((hC ic).symm.trans d2)]
      have hackS : apiAck s.srv x is args = { h := s.srv } := by
        rw [apiAck_eq, trigger_absent d1]
      refine linked_on_frame hs hl _ trivial trivial H.id (views_fst c ▸ List.mem_map_of_mem hH)
        (fun h => apiAck h x ic args) hst (fun h hh e => ?_)
        (by rw [hsst, hackS]; exact ⟨rfl, rfl⟩) hsobs.2.2 (by rw [hsst, hackS]; rfl)
      obtain rfl := eq_of_map_eq hs.ids hh hH e
      rw [hackH]
      exact ⟨.of_eq rfl rfl, fun _ hm => nomatch hm⟩
    · -- a linked position
      have hrel := (hC ic).symm.trans l2
      obtain ⟨O, hO, rfl, hOu⟩ := hrep.host l3
      obtain ⟨hm, hcb⟩ := on_ack_live hs.ids hl.drained H O hH hO x ic args n' id0 t hrel hOu
        (fun h => apiAck h x ic args) (fun _ => rfl)
      have hackS : apiAck s.srv x is args =
          { h := delCb s.srv x is, outs := [.callback s.srv.id t args] } := by
        rw [apiAck_eq]; exact trigger_user l1
      have hsrv : (s.step (.ack ns x n args)).1.srv = delCb s.srv x is := by rw [hsst, hackS]
      have hdS := delCb_cbs s.srv x is
      have hG := ackDel_only H.id O.id x ic id0
      unfold StepGoal
      rw [hst] at hseen
      rw [stepSync_on hst]
      refine ⟨?_, hcb.trans (by rw [hsst, hackS]; rfl), Or.inr hsobs.2.1⟩
      refine linked_keyed hs hl _ trivial hm (fun h _ => (hG h).id) hseen (· = x)
        (fun h _ => (hG h).other)
        (fun y hy => by rw [hsrv]; exact ⟨hdS.1 y hy, rfl⟩)
        (fun y _ => by rw [hsobs.2.2]; rfl) (fun h hh => (hG h).bounded (hl.bound h hh))
        (by rw [hsrv]; exact delCb_bounded hl.sbound x is) ?_
      rintro k hk -
      obtain rfl := hk.symm
      refine ⟨delC O.id id0 (delC (home x) ic C), N, ?_, ?_⟩
      · rw [hm.hosts, hhome]
        exact Rep.of_pointwise _ (fun h _ => (hG h).id)
          (fun h hh => ((show RepAt C N x h.id h from hrep.1 h hh).del H.id ic).del O.id id0)
          (fun o' ho' i => by simp only [delC, hrep.2 o' ho' i, ite_self])
      · rw [hm.askedOf_eq hseen (by rw [hsobs.2.2]; rfl), single_step_asked, hsobs.2.2, List.append_nil, hsrv,
          hdS.2]
        exact KL.ack hkl _ hp t O.id n' id0 l2 l3

end ops

end Sio.PubSub
