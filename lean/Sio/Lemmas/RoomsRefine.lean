/-
  Every operation of the rooms model is the pointwise update of the abstract specification.  The
  four removing operations are one `filter` on (namespace, room, session) (`Inv.abs_filter`), the
  two adding ones append single entries (`Inv.abs_add`); what is left per operation is to match
  the update with the text of `Spec.apply`.
-/
import Sio.Lemmas.Rooms
namespace Sio.Rooms

theorem Spec.ext' {σ τ : Spec} (h1 : ∀ n r x, σ.member n r x = τ.member n r x)
    (h2 : ∀ n x, σ.conn n x = τ.conn n x) (h3 : ∀ n e, σ.owner n e = τ.owner n e) : σ = τ := by
  cases σ; cases τ
  simp only [Spec.mk.injEq]
  exact ⟨funext fun n => funext fun r => funext fun x => h1 n r x,
         funext fun n => funext fun x => h2 n x, funext fun n => funext fun e => h3 n e⟩

theorem filter_true {α : Type} (o : Option α) : o.filter (fun _ => true) = o := by
  cases o <;> rfl

theorem abs_member {s : St} {n : Ns} {r : Option Room} {x : Sid} :
    (abs s).member n r x = true ↔ ∃ e, (⟨n, r, x, e⟩ : Entry) ∈ s := isMember_iff

theorem Inv.abs_conn {s : St} (h : Inv s) {n : Ns} {x : Sid} {e : Eio} :
    (abs s).conn n x = some e ↔ (⟨n, none, x, e⟩ : Entry) ∈ s := h.eioOf_iff

theorem Inv.abs_owner {s : St} (h : Inv s) {n : Ns} {x : Sid} {e : Eio} :
    (abs s).owner n e = some x ↔ (⟨n, none, x, e⟩ : Entry) ∈ s := h.sidOf_iff

theorem Inv.abs_filter {s : St} (h : Inv s) (Q : Ns → Option Room → Sid → Bool)
    (hQ : ∀ n r x, Q n none x = true → Q n r x = true) :
    abs (s.filter fun e => !Q e.ns e.room e.sid) =
      ⟨fun n r x => if Q n r x then false else (abs s).member n r x,
       fun n x => if Q n none x then none else (abs s).conn n x,
       fun n e => ((abs s).owner n e).filter fun x => !Q n none x⟩ := by
  have h' := h.filter (fun e => !Q e.ns e.room e.sid) fun e _ hp => by
    cases hq : Q e.ns none e.sid
    · rfl
    · rw [hQ _ _ _ hq] at hp; exact hp
  have hm : ∀ x, x ∈ s.filter (fun e => !Q e.ns e.room e.sid) ↔
      x ∈ s ∧ Q x.ns x.room x.sid = false := by simp
  apply Spec.ext'
  · intro n r x
    rw [Bool.eq_iff_iff, abs_member]
    cases hq : Q n r x <;> simp [hm, hq, abs_member]
  · intro n x
    apply Option.ext; intro e
    rw [h'.abs_conn, hm]
    cases hq : Q n none x <;> simp [h.abs_conn, hq]
  · intro n e
    apply Option.ext; intro x
    rw [h'.abs_owner, hm]
    simp [Option.filter_eq_some_iff, h.abs_owner]

theorem Inv.owner_conn {s : St} (h : Inv s) {n : Ns} {x : Sid} {e : Eio} :
    (abs s).owner n e = some x ↔ (abs s).conn n x = some e := h.abs_owner.trans h.abs_conn.symm

theorem refines_leave {s : St} (h : Inv s) (ns : Ns) (sid : Sid) (room : Room) :
    abs (apply s (.leave ns sid room)) = (abs s).apply (.leave ns sid room) := by
  refine (h.abs_filter (fun n r x => n = ns ∧ r = some room ∧ x = sid) (by simp)).trans ?_
  apply Spec.ext' <;> intros <;> simp [Spec.apply, filter_true]

theorem refines_closeRoom {s : St} (h : Inv s) (ns : Ns) (room : Room) :
    abs (apply s (.closeRoom ns room)) = (abs s).apply (.closeRoom ns room) := by
  refine (h.abs_filter (fun n r _ => n = ns ∧ r = some room) (by simp)).trans ?_
  apply Spec.ext' <;> intros <;> simp [Spec.apply, filter_true]

theorem refines_disconnect {s : St} (h : Inv s) (ns : Ns) (sid : Sid) :
    abs (apply s (.disconnect ns sid)) = (abs s).apply (.disconnect ns sid) := by
  refine (h.abs_filter (fun n _ x => n = ns ∧ x = sid) (by simp)).trans ?_
  apply Spec.ext' <;> intros <;> simp only [Spec.apply, decide_eq_true_eq]
  rename_i n e
  apply Option.ext; intro x
  rw [Option.filter_eq_some_iff]
  by_cases hc : n = ns ∧ (abs s).conn ns sid = some e
  · -- the transport's session is the one that leaves
    obtain ⟨rfl, hc⟩ := hc
    simp only [hc, and_self, if_true, reduceCtorEq, iff_false, not_and]
    intro hx
    simp [Option.some.inj (hx.symm.trans (h.owner_conn.2 hc))]
  · simp only [hc, if_false, and_iff_left_iff_imp]
    rintro hx
    simp only [Bool.not_eq_true', decide_eq_false_iff_not]
    rintro ⟨rfl, rfl⟩
    exact hc ⟨rfl, h.owner_conn.1 hx⟩

theorem refines_lost {s : St} (h : Inv s) (eio : Eio) :
    abs (apply s (.lost eio)) = (abs s).apply (.lost eio) := by
  refine (h.abs_filter (fun n _ x => (abs s).owner n eio == some x) (by simp)).trans ?_
  apply Spec.ext' <;> intros <;> simp only [Spec.apply, beq_iff_eq]
  rename_i n e
  by_cases hc : e = eio
  · subst hc; cases (abs s).owner n e <;> simp
  · rw [if_neg hc]
    apply Option.ext; intro x
    rw [Option.filter_eq_some_iff, and_iff_left_iff_imp]
    intro hx
    simp only [Bool.not_eq_true', beq_eq_false_iff_ne, ne_eq]
    intro hq
    exact hc (Option.some.inj ((h.owner_conn.1 hx).symm.trans (h.owner_conn.1 hq)))

theorem mem_connect {s s' : St} {ns : Ns} {eio : Eio} {sid : Sid}
    (hc : connect s ns eio sid = some s') (x : Entry) :
    x ∈ s' ↔ x ∈ s ∨ x = ⟨ns, none, sid, eio⟩ ∨ x = ⟨ns, some sid, sid, eio⟩ := by
  unfold connect at hc
  split at hc
  · cases hc
  · cases hc; simp only [mem_add, or_assoc]

theorem connect_eq_none_iff {s : St} {ns : Ns} {eio : Eio} {sid : Sid} :
    connect s ns eio sid = none ↔ (sidOf s ns eio).isSome = true := by
  unfold connect
  split <;> simp_all

theorem mem_enter {s s' : St} {ns : Ns} {sid : Sid} {room : Room}
    (he : enter s ns sid room = .ok s') :
    ∃ eio, eioOf s ns sid = some eio ∧ ∀ x, x ∈ s' ↔ x ∈ s ∨ x = ⟨ns, some room, sid, eio⟩ := by
  unfold enter at he
  split at he
  · cases he
  · split at he
    · cases he
    · rename_i eio hq
      cases he
      exact ⟨eio, hq, fun x => mem_add⟩

/-- Adding one entry `E` (both adding operations have this shape).  Its room-`None` fields decide
    `conn`/`owner`: by the invariant of the result no other transport or session competes. -/
theorem Inv.abs_add {s s' : St} (h : Inv s) (h' : Inv s') {E : Entry}
    (hm : ∀ x, x ∈ s' ↔ x ∈ s ∨ x = E) :
    abs s' =
      ⟨fun n r x => if n = E.ns ∧ r = E.room ∧ x = E.sid then true else (abs s).member n r x,
       fun n x => if E.room = none ∧ n = E.ns ∧ x = E.sid then some E.eio else (abs s).conn n x,
       fun n e => if E.room = none ∧ n = E.ns ∧ e = E.eio then some E.sid else (abs s).owner n e⟩ := by
  have hE : E ∈ s' := (hm E).2 (.inr rfl)
  apply Spec.ext'
  · intro n r x
    rw [Bool.eq_iff_iff, abs_member]
    simp only
    split
    · rename_i hc
      obtain ⟨rfl, rfl, rfl⟩ := hc
      exact iff_of_true ⟨E.eio, hE⟩ rfl
    · rename_i hc
      rw [abs_member]
      refine exists_congr fun e => (hm _).trans (or_iff_left ?_)
      rintro rfl
      exact hc ⟨rfl, rfl, rfl⟩
  · intro n x
    apply Option.ext; intro e
    rw [h'.abs_conn]
    simp only
    split
    · rename_i hc
      obtain ⟨hr, rfl, rfl⟩ := hc
      constructor
      · intro hx; exact congrArg some (h'.sidEio _ hE _ hx rfl rfl)
      · intro he; cases he; cases E; cases hr; exact hE
    · rename_i hc
      rw [h.abs_conn, hm]
      refine or_iff_left ?_
      rintro rfl
      exact hc ⟨rfl, rfl, rfl⟩
  · intro n e
    apply Option.ext; intro x
    rw [h'.abs_owner]
    simp only
    split
    · rename_i hc
      obtain ⟨hr, rfl, rfl⟩ := hc
      constructor
      · intro hx; exact congrArg some (h'.eioSid _ hE _ hx rfl rfl)
      · intro he; cases he; cases E; cases hr; exact hE
    · rename_i hc
      rw [h.abs_owner, hm]
      refine or_iff_left ?_
      rintro rfl
      exact hc ⟨rfl, rfl, rfl⟩

theorem enter_ok_iff {s : St} {ns : Ns} {sid : Sid} {room : Room} :
    (∃ s', enter s ns sid room = .ok s') ↔ (eioOf s ns sid).isSome = true := by
  unfold enter
  constructor
  · rintro ⟨s', he⟩
    split at he
    · cases he
    · split at he
      · cases he
      · rename_i eio hq; simp [hq]
  · intro h
    obtain ⟨eio, hq⟩ := Option.isSome_iff_exists.mp h
    have : hasNs s ns = true := hasNs_iff.mpr ⟨_, eioOf_some_mem hq, rfl⟩
    simp [this, hq]

theorem refines_enter {s : St} (h : Inv s) (ns : Ns) (sid : Sid) (room : Room) :
    abs (apply s (.enter ns sid room)) = (abs s).apply (.enter ns sid room) := by
  simp only [apply, Spec.apply]
  split
  · rename_i s' he
    obtain ⟨eio, hq, hm⟩ := mem_enter he
    rw [h.abs_add (h.enter he) hm, show (abs s).conn ns sid = _ from hq]
    apply Spec.ext' <;> intros <;> simp
  · rename_i he
    rw [if_neg]
    intro hc
    obtain ⟨s', hs'⟩ := enter_ok_iff.2 hc
    cases he.symm.trans hs'

/-- two successive overwrites of `member` (room `some sid`, then room `None`) are the one overwrite
    with a disjunction that `Spec.apply (.connect …)` writes -/
theorem two_overwrites : ∀ a b c d m : Bool,
    (a && (d && b) || (a && (c && b) || m)) = (a && (b && (c || d)) || m) := by decide

theorem refines_connect {s : St} (h : Inv s) (ns : Ns) (eio : Eio) (sid : Sid) :
    abs (apply s (.connect ns eio sid)) = (abs s).apply (.connect ns eio sid) := by
  cases hfr : eioOf s ns sid with
  | some _ => simp [apply, Spec.apply, abs, hfr]
  | none =>
    cases hown : sidOf s ns eio with
    | some _ => simp [apply, Spec.apply, abs, hfr, hown, connect]
    | none =>
      have hc : connect s ns eio sid =
          some (add (add s ⟨ns, none, sid, eio⟩) ⟨ns, some sid, sid, eio⟩) := by simp only [connect, hown]
      have h1 := addNone_inv h fun x hx hns =>
        ⟨h.no_entry_of_eioOf_none hfr x hx hns, h.no_entry_of_sidOf_none hown x hx hns⟩
      -- both sides act; on the left two entries are added, one after the other
      simp only [apply, Spec.apply, hfr, hc, show (abs s).conn ns sid = none from hfr,
        show (abs s).owner ns eio = none from hown, Option.isSome_none, Bool.or_self,
        Bool.false_eq_true, if_false, Option.getD_some]
      rw [h1.abs_add (h.connect hfr hc) fun _ => mem_add, h.abs_add h1 fun _ => mem_add]
      apply Spec.ext'
      · intro n r x
        simpa using two_overwrites ..
      · intro n x; simp
      · intro n e; simp

theorem refines_op {s : St} (h : Inv s) (op : Op) : abs (apply s op) = (abs s).apply op := by
  cases op with
  | connect ns eio sid => exact refines_connect h ns eio sid
  | enter ns sid room => exact refines_enter h ns sid room
  | leave ns sid room => exact refines_leave h ns sid room
  | closeRoom ns room => exact refines_closeRoom h ns room
  | disconnect ns sid => exact refines_disconnect h ns sid
  | lost eio => exact refines_lost h eio

theorem abs_nil : abs [] = Spec.init := rfl

end Sio.Rooms
