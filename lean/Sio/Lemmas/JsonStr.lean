/-
  C01 phase 2 — the JSON reader inverts the printer on strings.
-/
import Sio.Model.JsonParse
namespace Sio
open JP

theorem hexVal_digitChar : ∀ k, k < 16 → hexVal (Nat.digitChar k) = some k := by decide

theorem hex4Val_hex4 (n : Nat) (h : n < 65536) :
    hex4Val (hexDigit (n / 4096)) (hexDigit (n / 256)) (hexDigit (n / 16)) (hexDigit n) = some n := by
  simp only [hex4Val, hexDigit, hexVal_digitChar _ (Nat.mod_lt _ (by decide : 0 < 16))]
  congr 1
  omega

theorem char_range (c : Char) : c.toNat < 0xD800 ∨ (0xDFFF < c.toNat ∧ c.toNat < 0x110000) := c.valid

/-- put a character in front of the result of reading the rest -/
def consOk (c : Char) : Except Err (Str × Str) → Except Err (Str × Str)
  | .ok (cs, r) => .ok (c :: cs, r)
  | .error e => .error e

theorem strBody_raw (c : Char) (rest : Str) (h1 : c ≠ '\\') (h2 : c ≠ '"') (h3 : 32 ≤ c.toNat) :
    strBody none (c :: rest) = consOk c (strBody none rest) := by
  rw [strBody.eq_def]
  simp only [h1, h2, Nat.not_lt.mpr h3, if_false, Option.isSome_none, Bool.false_eq_true]
  rfl

theorem strBody_quote (rest : Str) : strBody none ('"' :: rest) = .ok ([], rest) := by
  rw [strBody.eq_def]; simp

theorem strBody_simple (e ch : Char) (rest : Str) (hu : e ≠ 'u') (he : simpleEsc e = some ch) :
    strBody none ('\\' :: e :: rest) = consOk ch (strBody none rest) := by
  rw [strBody.eq_def]
  simp only [if_true, hu, if_false, he]
  rfl

theorem strBody_u (v : Nat) (rest : Str) (hv : v < 65536) (h : v < 0xD800 ∨ 0xDFFF < v) :
    strBody none ('\\' :: 'u' :: hex4 v ++ rest) = consOk (Char.ofNat v) (strBody none rest) := by
  have n1 : ¬ (0xD800 ≤ v ∧ v ≤ 0xDBFF) := by omega
  have n2 : ¬ (0xDC00 ≤ v ∧ v ≤ 0xDFFF) := by omega
  rw [strBody.eq_def]
  simp only [hex4, List.cons_append, List.nil_append, if_true, hex4Val_hex4 v hv, n1, n2, if_false]
  rfl

theorem strBody_pair (h l : Nat) (rest : Str) (h1 : 0xD800 ≤ h ∧ h ≤ 0xDBFF)
    (h2 : 0xDC00 ≤ l ∧ l ≤ 0xDFFF) :
    strBody none (('\\' :: 'u' :: hex4 h) ++ ('\\' :: 'u' :: hex4 l) ++ rest) =
      consOk (Char.ofNat (0x10000 + (h - 0xD800) * 1024 + (l - 0xDC00))) (strBody none rest) := by
  rw [strBody.eq_def]
  simp only [hex4, List.cons_append, List.nil_append, if_true, hex4Val_hex4 h (by omega), h1, and_self]
  rw [strBody.eq_def]
  simp only [if_true, hex4Val_hex4 l (by omega), h2, and_self]
  rfl

theorem strBody_escChar (c : Char) (rest : Str) :
    strBody none (escChar c ++ rest) = consOk c (strBody none rest) := by
  unfold escChar
  by_cases h1 : c = '"'
  · rw [if_pos h1, h1]; exact strBody_simple '"' '"' rest (by decide) rfl
  rw [if_neg h1]
  by_cases h2 : c = '\\'
  · rw [if_pos h2, h2]; exact strBody_simple '\\' '\\' rest (by decide) rfl
  rw [if_neg h2]
  by_cases h3 : c = '\n'
  · rw [if_pos h3, h3]; exact strBody_simple 'n' '\n' rest (by decide) rfl
  rw [if_neg h3]
  by_cases h4 : c = '\r'
  · rw [if_pos h4, h4]; exact strBody_simple 'r' '\r' rest (by decide) rfl
  rw [if_neg h4]
  by_cases h5 : c = '\t'
  · rw [if_pos h5, h5]; exact strBody_simple 't' '\t' rest (by decide) rfl
  rw [if_neg h5]
  by_cases h6 : c.toNat = 8
  · rw [if_pos h6, ← Char.ofNat_toNat c, h6]; exact strBody_simple 'b' _ rest (by decide) rfl
  rw [if_neg h6]
  by_cases h7 : c.toNat = 12
  · rw [if_pos h7, ← Char.ofNat_toNat c, h7]; exact strBody_simple 'f' _ rest (by decide) rfl
  rw [if_neg h7]
  by_cases h8 : 32 ≤ c.toNat ∧ c.toNat ≤ 126
  · rw [if_pos h8]; exact strBody_raw c rest h2 h1 h8.1
  rw [if_neg h8]
  have hr := char_range c
  by_cases h9 : c.toNat < 65536
  · rw [if_pos h9]
    have := strBody_u c.toNat rest h9 (by omega)
    rwa [Char.ofNat_toNat] at this
  · rw [if_neg h9]
    have := strBody_pair (0xD800 + (c.toNat - 65536) / 1024) (0xDC00 + (c.toNat - 65536) % 1024) rest
      (by omega) (by omega)
    have hc : 0x10000 + (0xD800 + (c.toNat - 65536) / 1024 - 0xD800) * 1024
        + (0xDC00 + (c.toNat - 65536) % 1024 - 0xDC00) = c.toNat := by omega
    rw [hc, Char.ofNat_toNat] at this
    exact this

theorem strBody_flatMap (s rest : Str) :
    strBody none (s.flatMap escChar ++ '"' :: rest) = .ok (s, rest) := by
  induction s with
  | nil => exact strBody_quote rest
  | cons c cs ih =>
    rw [List.flatMap_cons, List.append_assoc, strBody_escChar, ih]; rfl

theorem escStr_append (s rest : Str) :
    escStr s ++ rest = '"' :: (s.flatMap escChar ++ '"' :: rest) := by
  simp [escStr]

end Sio
