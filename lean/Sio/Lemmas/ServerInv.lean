/-
  K4 — foundations: the state invariant `WF` of the server core, and the primitive state
  transformers (of which every handler is composed) that preserve it.
-/
import Sio.Model.Server
import Sio.Lemmas.RoomsRefine
import Sio.Lemmas.RoomsEmit
import Sio.Lemmas.CodecDigits
namespace Sio.Server
open Sio.Rooms

theorem natStr_inj {a b : Nat} (h : natStr a = natStr b) : a = b := by
  have ha := pyInt_natStr asciiCls_ascii a
  have hb := pyInt_natStr asciiCls_ascii b
  rw [h, hb] at ha
  injection ha with ha; exact ha.symm

theorem sidName_inj {a b : Nat} (h : sidName a = sidName b) : a = b := by
  unfold sidName at h
  exact natStr_inj (List.cons.inj h).2

/-- `ack_counters.get(sid, 0)`: the last id handed out to `sid`. -/
def ctrOf (c : List (Sid × Nat)) (sid : Sid) : Nat :=
  match c.find? (fun e => e.1 = sid) with
  | some e => e.2
  | none => 0

theorem nextAckId_eq (s : Srv) (sid : Sid) : nextAckId s sid = ctrOf s.ctr sid + 1 := by
  unfold nextAckId ctrOf; split <;> rename_i h <;> rw [h]

theorem ctrOf_nil (sid : Sid) : ctrOf [] sid = 0 := rfl

theorem ctrOf_cons (a : Sid × Nat) (c : List (Sid × Nat)) (sid : Sid) :
    ctrOf (a :: c) sid = if a.1 = sid then a.2 else ctrOf c sid := by
  simp only [ctrOf, List.find?_cons]
  by_cases h : a.1 = sid <;> simp [h]

theorem ctrOf_append (c d : List (Sid × Nat)) (sid : Sid) :
    ctrOf (c ++ d) sid = if c.any (fun e => e.1 = sid) then ctrOf c sid else ctrOf d sid := by
  induction c with
  | nil => simp
  | cons a c ih =>
    simp only [List.cons_append, ctrOf_cons, ih, List.any_cons]
    grind

theorem ctrOf_map_set (c : List (Sid × Nat)) (sid sid' : Sid) (n : Nat) :
    ctrOf (c.map (fun e => if e.1 = sid then (sid, n) else e)) sid'
      = if sid' = sid then (if c.any (fun e => e.1 = sid) then n else 0) else ctrOf c sid' := by
  induction c with
  | nil => simp [ctrOf_nil]
  | cons a c ih =>
    simp only [List.map_cons, ctrOf_cons, ih, List.any_cons]
    grind

theorem ctrOf_of_not_any (c : List (Sid × Nat)) (sid : Sid)
    (h : ¬ c.any (fun e => e.1 = sid) = true) : ctrOf c sid = 0 := by
  unfold ctrOf
  rw [List.find?_eq_none.mpr fun e he hp => h (List.any_eq_true.mpr ⟨e, he, hp⟩)]

theorem ctrOf_setCtr (c : List (Sid × Nat)) (sid sid' : Sid) (n : Nat) :
    ctrOf (setCtr c sid n) sid' = if sid' = sid then n else ctrOf c sid' := by
  unfold setCtr
  split
  · rename_i h; rw [ctrOf_map_set, h]; simp
  · rename_i h
    rw [ctrOf_append]
    by_cases h2 : sid' = sid
    · subst h2; simp [h, ctrOf_cons]
    · have h3 : ¬ sid = sid' := fun h => h2 h.symm
      simp only [h2, if_false]
      split
      · rfl
      · rename_i h4
        rw [ctrOf_of_not_any _ _ h4]; simp [ctrOf_cons, h3, ctrOf_nil]

theorem find_filter_ne {α : Type} (b : List (Sid × α)) {t t' : Sid} (hne : t' ≠ t) :
    (b.filter (fun e => e.1 != t')).find? (fun e => e.1 = t) = b.find? (fun e => e.1 = t) := by
  rw [List.find?_filter]
  congr 1
  funext e
  by_cases h : e.1 = t
  · simp [h, hne.symm]
  · simp [h]

theorem ctrOf_filter_ne (c : List (Sid × Nat)) (sid sid' : Sid) (h : sid' ≠ sid) :
    ctrOf (c.filter (fun e => e.1 != sid)) sid' = ctrOf c sid' := by
  unfold ctrOf
  rw [find_filter_ne c h.symm]

theorem mem_setCtr {c : List (Sid × Nat)} {sid : Sid} {n : Nat} {x : Sid × Nat}
    (h : x ∈ setCtr c sid n) : x.1 = sid ∨ x ∈ c := by
  unfold setCtr at h
  split at h
  · simp only [List.mem_map] at h
    obtain ⟨e, he, rfl⟩ := h
    by_cases h1 : e.1 = sid <;> simp [h1, he]
  · simp at h; rcases h with h | h
    · exact Or.inr h
    · exact Or.inl (by rw [h])

theorem nodup_map_concat {α β : Type} {f : α → β} {l : List α} {x : α} (h : (l.map f).Nodup)
    (hx : ∀ c ∈ l, f c ≠ f x) : ((l ++ [x]).map f).Nodup := by
  rw [List.map_append, List.nodup_append]
  refine ⟨h, by simp, fun a ha b hb => ?_⟩
  obtain ⟨c, hc, rfl⟩ := List.mem_map.mp ha
  rw [List.mem_singleton.mp hb]
  exact hx c hc

/-- `sid` is connected to some namespace (has an entry in a room `None`). -/
def sidLive (r : Rooms.St) (sid : Sid) : Prop := ∃ ns eio, (⟨ns, none, sid, eio⟩ : Entry) ∈ r

/-- The part of the invariant that does not talk about `pending`. -/
structure WF0 (s : Srv) : Prop where
  /-- the rooms relation satisfies the C03 invariant -/
  rooms : Rooms.Inv s.rooms
  /-- every session id in use was allocated: it is `sidName k` for some `k < nextSid` -/
  sidAlloc : ∀ e ∈ s.rooms, ∃ k, k < s.nextSid ∧ e.sid = sidName k
  /-- a session id lives on one namespace -/
  sidNs : ∀ e₁ ∈ s.rooms, ∀ e₂ ∈ s.rooms, e₁.sid = e₂.sid → e₁.ns = e₂.ns
  /-- outstanding callbacks and ack counters belong to connected sessions -/
  cbsLive : ∀ c ∈ s.cbs, sidLive s.rooms c.1
  ctrLive : ∀ c ∈ s.ctr, sidLive s.rooms c.1
  /-- ids of outstanding callbacks are positive and at most the session's counter -/
  cbsLe : ∀ c ∈ s.cbs, 1 ≤ c.2.1 ∧ c.2.1 ≤ ctrOf s.ctr c.1
  /-- and unique per session -/
  cbsNodup : (s.cbs.map (fun c => (c.1, c.2.1))).Nodup
  /-- at most one partially received packet per transport -/
  binNodup : (s.binbuf.map (·.1)).Nodup
  /-- `environ` is kept exactly for the open sockets -/
  envSocks : s.environ = s.socks
  /-- sessions are stored on open sockets only -/
  sessOpen : ∀ e ∈ s.sess, e.1 ∈ s.socks

/-- What every state reachable through `step` satisfies: `WF0`, and no disconnect in progress
    between two inputs (the model is sequential: `pending_disconnect` is set and cleared inside
    one step — the cleanup runs in a `finally`). -/
structure WF (s : Srv) : Prop extends WF0 s where
  pendingNil : s.pending = []

/-- everything but the script counters and the queue of background handlers -/
def core (s : Srv) : Srv :=
  { s with bg := [], nConn := 0, nEv := 0, nDisc := 0 }

/-- what `core s' = core s` says, field by field -/
structure CoreEq (s' s : Srv) : Prop where
  rooms : s'.rooms = s.rooms
  pending : s'.pending = s.pending
  cbs : s'.cbs = s.cbs
  ctr : s'.ctr = s.ctr
  environ : s'.environ = s.environ
  binbuf : s'.binbuf = s.binbuf
  sess : s'.sess = s.sess
  socks : s'.socks = s.socks
  nextSid : s'.nextSid = s.nextSid
  nCall : s'.nCall = s.nCall
  callDone : s'.callDone = s.callDone

theorem core_fields {s' s : Srv} (h : core s' = core s) : CoreEq s' s :=
  have f {α} (g : Srv → α) : g (core s') = g (core s) := congrArg g h
  ⟨f Srv.rooms, f Srv.pending, f Srv.cbs, f Srv.ctr, f Srv.environ, f Srv.binbuf, f Srv.sess,
   f Srv.socks, f Srv.nextSid, f Srv.nCall, f Srv.callDone⟩

/-- `WF0` reads eight components of the state and nothing else (not `pending`, the `call()`
    bookkeeping, the script counters or the queue): a state update elsewhere is `h.congr rfl`. -/
theorem WF0.congr {s s' : Srv} (h : WF0 s)
    (e : (s'.rooms, s'.nextSid, s'.cbs, s'.ctr, s'.binbuf, s'.environ, s'.socks, s'.sess) =
         (s.rooms, s.nextSid, s.cbs, s.ctr, s.binbuf, s.environ, s.socks, s.sess)) : WF0 s' := by
  simp only [Prod.mk.injEq] at e
  obtain ⟨h1, h2, h3, h4, h5, h6, h7, h8⟩ := e
  exact ⟨h1 ▸ h.rooms, by rw [h1, h2]; exact h.sidAlloc, by rw [h1]; exact h.sidNs,
    by rw [h1, h3]; exact h.cbsLive, by rw [h1, h4]; exact h.ctrLive,
    by rw [h3, h4]; exact h.cbsLe, by rw [h3]; exact h.cbsNodup, by rw [h5]; exact h.binNodup,
    by rw [h6, h7]; exact h.envSocks, by rw [h7, h8]; exact h.sessOpen⟩

theorem WF.of_core {s s' : Srv} (h : WF s) (hc : core s' = core s) : WF s' :=
  ⟨h.toWF0.congr (congrArg
      (fun x => (x.rooms, x.nextSid, x.cbs, x.ctr, x.binbuf, x.environ, x.socks, x.sess)) hc),
    (core_fields hc).pending.trans h.pendingNil⟩

theorem WF.init : WF {} :=
  ⟨⟨Inv.nil, by simp, by simp, by simp, by simp, by simp, by simp, by simp, rfl, by simp⟩, rfl⟩

theorem sidLive_of_mem {r : Rooms.St} (h : Inv r) {e : Entry} (he : e ∈ r) : sidLive r e.sid :=
  ⟨e.ns, e.eio, h.inNone e he⟩

theorem sidLive.mono {r r' : Rooms.St} {sid : Sid} (h : sidLive r sid)
    (hs : ∀ e ∈ r, e.room = none → e ∈ r') : sidLive r' sid := by
  obtain ⟨ns, eio, he⟩ := h
  exact ⟨ns, eio, hs _ he rfl⟩

theorem sidLive_disconnect {r : Rooms.St} {sid sid' : Sid} {ns : Ns} (h : sidLive r sid')
    (hne : sid' ≠ sid) : sidLive (Rooms.disconnect r ns sid) sid' := by
  obtain ⟨n, eio, he⟩ := h
  exact ⟨n, eio, List.mem_filter.mpr ⟨he, by simp [hne]⟩⟩

/-- the state right after `manager.connect` allocated a session id -/
def connected (s : Srv) (rooms' : Rooms.St) : Srv :=
  { s with rooms := rooms', nextSid := s.nextSid + 1 }

/-- the next session id is not in use -/
theorem WF0.fresh {s : Srv} (h : WF0 s) {e : Entry} (he : e ∈ s.rooms) : e.sid ≠ sidName s.nextSid := by
  intro heq
  obtain ⟨k, hk, hs⟩ := h.sidAlloc _ he
  have := sidName_inj (hs.symm.trans heq)
  omega

theorem WF0.connected {s : Srv} (h : WF0 s) {ns : Ns} {t : Eio} {rooms' : Rooms.St}
    (hc : Rooms.connect s.rooms ns t (sidName s.nextSid) = some rooms') :
    WF0 (connected s rooms') := by
  have hm := mem_connect hc
  have hsub : ∀ e ∈ s.rooms, e ∈ rooms' := fun e he => (hm e).mpr (Or.inl he)
  have hnew : ∀ e ∈ rooms', e ∈ s.rooms ∨ (e.ns = ns ∧ e.sid = sidName s.nextSid) := by
    intro e he
    rcases (hm e).mp he with h1 | rfl | rfl
    · exact Or.inl h1
    · exact Or.inr ⟨rfl, rfl⟩
    · exact Or.inr ⟨rfl, rfl⟩
  refine { h with rooms := h.rooms.connect (eioOf_none_iff.mpr fun _ he => h.fresh he rfl) hc,
                   sidAlloc := ?_, sidNs := ?_, cbsLive := ?_, ctrLive := ?_ }
  · intro e he
    rcases hnew e he with h1 | ⟨_, h2⟩
    · obtain ⟨k, hk, hs⟩ := h.sidAlloc _ h1
      exact ⟨k, Nat.lt_succ_of_lt hk, hs⟩
    · exact ⟨s.nextSid, Nat.lt_succ_self _, h2⟩
  · intro e₁ h₁ e₂ h₂ heq
    rcases hnew e₁ h₁ with a | ⟨a1, a2⟩ <;> rcases hnew e₂ h₂ with b | ⟨b1, b2⟩
    · exact h.sidNs e₁ a e₂ b heq
    · exact absurd (heq.trans b2) (h.fresh a)
    · exact absurd (heq.symm.trans a2) (h.fresh b)
    · rw [a1, b1]
  · intro c hc'
    exact (h.cbsLive c hc').mono (fun e he _ => hsub e he)
  · intro c hc'
    exact (h.ctrLive c hc').mono (fun e he _ => hsub e he)

theorem WF0.mgrDisconnect {s : Srv} (h : WF0 s) (sid : Sid) (ns : Ns) :
    WF0 (mgrDisconnect s sid ns) := by
  have hsub : ∀ e ∈ Rooms.disconnect s.rooms ns sid, e ∈ s.rooms := fun e he =>
    (List.mem_filter.mp he).1
  refine { h with rooms := h.rooms.disconnect ns sid,
                   sidAlloc := fun e he => h.sidAlloc e (hsub e he),
                   sidNs := fun e₁ h₁ e₂ h₂ => h.sidNs e₁ (hsub e₁ h₁) e₂ (hsub e₂ h₂),
                   cbsLive := ?_, ctrLive := ?_, cbsLe := ?_, cbsNodup := ?_ }
  · intro c hc
    simp only [Server.mgrDisconnect, List.mem_filter, bne_iff_ne] at hc
    exact sidLive_disconnect (h.cbsLive c hc.1) hc.2
  · intro c hc
    simp only [Server.mgrDisconnect, List.mem_filter, bne_iff_ne] at hc
    exact sidLive_disconnect (h.ctrLive c hc.1) hc.2
  · intro c hc
    simp only [Server.mgrDisconnect, List.mem_filter, bne_iff_ne] at hc
    have := h.cbsLe c hc.1
    simp only [Server.mgrDisconnect]
    rw [ctrOf_filter_ne _ _ _ hc.2]
    exact this
  · simp only [Server.mgrDisconnect]
    exact (h.cbsNodup.sublist (List.Sublist.map _ List.filter_sublist))

/-- `r'` arises from `r` by a change of rooms other than `None`: every entry has a counterpart in
    `r` with the same session, namespace and transport, and the room-`None` entries of `r` stay. -/
structure RoomsStep (r r' : Rooms.St) : Prop where
  inv : Inv r'
  sub : ∀ e ∈ r', ∃ e' ∈ r, e'.sid = e.sid ∧ e'.ns = e.ns ∧ e'.eio = e.eio
  keep : ∀ e ∈ r, e.room = none → e ∈ r'

theorem RoomsStep.enter {r r' : Rooms.St} (h : Inv r) {ns : Ns} {sid : Sid} {room : Room}
    (he : Rooms.enter r ns sid room = .ok r') : RoomsStep r r' := by
  obtain ⟨eio, hq, hm⟩ := mem_enter he
  refine ⟨h.enter he, fun e he' => ?_, fun e he _ => (hm e).mpr (Or.inl he)⟩
  rcases (hm e).mp he' with h1 | rfl
  · exact ⟨e, h1, rfl, rfl, rfl⟩
  · exact ⟨_, eioOf_some_mem hq, rfl, rfl, rfl⟩

theorem RoomsStep.filter {r : Rooms.St} {f : Entry → Bool} (h : Inv (r.filter f))
    (hf : ∀ e, e.room = none → f e = true) : RoomsStep r (r.filter f) :=
  ⟨h, fun e he => ⟨e, (List.mem_filter.mp he).1, rfl, rfl, rfl⟩,
    fun e he hn => List.mem_filter.mpr ⟨he, hf e hn⟩⟩

theorem RoomsStep.leave {r : Rooms.St} (h : Inv r) (ns : Ns) (sid : Sid) (room : Room) :
    RoomsStep r (Rooms.leave r ns sid (some room)) :=
  .filter (h.leave ns sid room) (fun e hn => by simp [hn])

theorem RoomsStep.closeRoom {r : Rooms.St} (h : Inv r) (ns : Ns) (room : Room) :
    RoomsStep r (Rooms.closeRoom r ns room) :=
  .filter (h.closeRoom ns room) (fun e hn => by simp [hn])

theorem WF0.set_rooms {s : Srv} (h : WF0 s) {r : Rooms.St} (hr : RoomsStep s.rooms r) :
    WF0 { s with rooms := r } := by
  refine { h with rooms := hr.inv, sidAlloc := ?_, sidNs := ?_,
                   cbsLive := fun c hc => (h.cbsLive c hc).mono hr.keep,
                   ctrLive := fun c hc => (h.ctrLive c hc).mono hr.keep }
  · intro e he
    obtain ⟨e', he', h1, _⟩ := hr.sub e he
    obtain ⟨k, hk, hs⟩ := h.sidAlloc e' he'
    exact ⟨k, hk, h1 ▸ hs⟩
  · intro e₁ h₁ e₂ h₂ heq
    obtain ⟨a, ha, a1, a2, _⟩ := hr.sub e₁ h₁
    obtain ⟨b, hb, b1, b2, _⟩ := hr.sub e₂ h₂
    rw [← a2, ← b2]
    exact h.sidNs a ha b hb (by rw [a1, b1, heq])

theorem WF0.closeRoom {s : Srv} (h : WF0 s) (ns : Ns) (room : Room) :
    WF0 { s with rooms := Rooms.closeRoom s.rooms ns room } :=
  h.set_rooms (.closeRoom h.rooms ns room)

/-- registering one callback for a connected session (`_generate_ack_id`) -/
def addCb (s : Srv) (sid : Sid) (tok : CbTok) : Srv :=
  { s with ctr := setCtr s.ctr sid (nextAckId s sid), cbs := s.cbs ++ [(sid, nextAckId s sid, tok)] }

theorem WF0.addCb {s : Srv} (h : WF0 s) {sid : Sid} (hl : sidLive s.rooms sid) (tok : CbTok) :
    WF0 (addCb s sid tok) := by
  refine { h with cbsLive := ?_, ctrLive := ?_, cbsLe := ?_, cbsNodup := ?_ }
  · intro c hc
    simp only [Server.addCb, List.mem_append, List.mem_singleton] at hc
    rcases hc with hc | rfl
    · exact h.cbsLive c hc
    · exact hl
  · intro c hc
    rcases mem_setCtr hc with h1 | h1
    · rw [h1]; exact hl
    · exact h.ctrLive c h1
  · intro c hc
    simp only [Server.addCb, List.mem_append, List.mem_singleton] at hc
    simp only [Server.addCb, ctrOf_setCtr, nextAckId_eq]
    rcases hc with hc | rfl
    · have := h.cbsLe c hc
      split
      · rename_i heq; rw [heq] at this; omega
      · exact this
    · simp [nextAckId_eq]
  · refine nodup_map_concat h.cbsNodup fun c hc heq => ?_
    have := (h.cbsLe c hc).2
    simp only [Prod.mk.injEq] at heq
    rw [heq.1, heq.2, nextAckId_eq] at this
    omega

theorem WF0.set_binbuf {s : Srv} (h : WF0 s) {b : List (Eio × Partial)}
    (hb : (b.map (·.1)).Nodup) : WF0 { s with binbuf := b } :=
  { h with binNodup := hb }

theorem setBin_keys (b : List (Eio × Partial)) (t : Eio) (p : Partial) :
    (setBin b t p).map (·.1) = b.map (·.1) := by
  unfold setBin
  rw [List.map_map]
  apply List.map_congr_left
  intro e _
  simp only [Function.comp]
  split <;> simp_all

theorem WF0.filterBin {s : Srv} (h : WF0 s) (f : Eio × Partial → Bool) :
    WF0 { s with binbuf := s.binbuf.filter f } :=
  h.set_binbuf (h.binNodup.sublist (List.Sublist.map _ List.filter_sublist))

theorem WF0.pushBin {s : Srv} (h : WF0 s) {t : Eio} (hn : s.binbuf.find? (fun e => e.1 = t) = none)
    (p : Partial) : WF0 { s with binbuf := s.binbuf ++ [(t, p)] } := by
  refine h.set_binbuf (nodup_map_concat h.binNodup fun e he heq => ?_)
  have := List.find?_eq_none.mp hn e he
  simp [heq] at this

theorem WF0.set_cbs_filter {s : Srv} (h : WF0 s) (f : Sid × Nat × CbTok → Bool) :
    WF0 { s with cbs := s.cbs.filter f } :=
  { h with cbsLive := fun c hc => h.cbsLive c (List.mem_filter.mp hc).1,
           cbsLe := fun c hc => h.cbsLe c (List.mem_filter.mp hc).1,
           cbsNodup := h.cbsNodup.sublist (List.Sublist.map _ List.filter_sublist) }

theorem sessSet_eq (s : Srv) (t : Eio) (ns : Ns) (v : J) :
    sessSet s t ns v = { s with sess := (sessSet s t ns v).sess } := by
  unfold Server.sessSet; split <;> rfl

theorem mem_sessSet {s : Srv} {t : Eio} {ns : Ns} {v : J} {e : Eio × Ns × J}
    (he : e ∈ (sessSet s t ns v).sess) : e.1 = t ∨ e ∈ s.sess := by
  unfold Server.sessSet at he
  split at he
  · obtain ⟨e', he', rfl⟩ := List.mem_map.mp he
    split
    · exact .inl rfl
    · exact .inr he'
  · rcases List.mem_append.mp he with he | he
    · exact .inr he
    · exact .inl (by rw [List.mem_singleton.mp he])

theorem WF.sessSet {s : Srv} (h : WF s) {t : Eio} (ht : t ∈ s.socks) (ns : Ns) (v : J) :
    WF (sessSet s t ns v) := by
  rw [sessSet_eq]
  exact { h with sessOpen := fun e he => (mem_sessSet he).elim (fun h1 => h1 ▸ ht) (h.sessOpen e) }

theorem sessSock_some {s : Srv} {sid : Sid} {ns : Ns} {t : Eio} (h : sessSock s sid ns = some t) :
    eioOf s.rooms ns sid = some t ∧ t ∈ s.socks := by
  unfold sessSock at h
  split at h
  · rename_i he
    split at h
    · rename_i hc; cases h; exact ⟨he, List.contains_iff_mem.mp hc⟩
    · cases h
  · cases h

theorem WF0.eioConnect {s : Srv} (h : WF0 s) (t : Eio) :
    WF0 { s with environ := s.environ ++ [t], socks := s.socks ++ [t] } :=
  { h with envSocks := by simp [h.envSocks],
           sessOpen := fun e he => List.mem_append_left _ (h.sessOpen e he) }

/-- the final cleanup of `_handle_eio_disconnect` -/
def dropTransport (s : Srv) (t : Eio) : Srv :=
  { s with environ := s.environ.filter (· != t),
           binbuf := s.binbuf.filter (fun e => e.1 != t),
           socks := s.socks.filter (· != t),
           sess := s.sess.filter (fun e => e.1 != t) }

theorem WF0.dropTransport {s : Srv} (h : WF0 s) (t : Eio) : WF0 (dropTransport s t) := by
  refine { h with binNodup := h.binNodup.sublist (List.Sublist.map _ List.filter_sublist),
                   envSocks := ?_, sessOpen := ?_ }
  · simp only [Server.dropTransport, h.envSocks]
  · intro e he
    simp only [Server.dropTransport, List.mem_filter] at he ⊢
    exact ⟨h.sessOpen e he.1, he.2⟩

end Sio.Server
