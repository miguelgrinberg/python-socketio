/-
  K4 — facts about whole histories, each obtained by one case analysis over the primitive state
  changes (`Reach.preserve`): dead session ids stay dead, ack counters of a live session never
  decrease, `call()` bookkeeping.
-/
import Sio.Lemmas.ServerStep
namespace Sio.Server
open Sio.Rooms

/-- `sidName k` has been allocated and is not connected any more (or was refused) -/
def Dead (k : Nat) (s : Srv) : Prop := k < s.nextSid ∧ ¬ sidLive s.rooms (sidName k)

theorem not_sidLive_disconnect {s : Srv} (h : WF0 s) {ns : Ns} {sid : Sid} {t : Eio}
    (he : eioOf s.rooms ns sid = some t) : ¬ sidLive (Rooms.disconnect s.rooms ns sid) sid := by
  rintro ⟨n, e, hm⟩
  unfold Rooms.disconnect at hm
  rw [List.mem_filter] at hm
  have := h.sidNs _ hm.1 _ (eioOf_some_mem he) rfl
  simp only at this
  simp [this] at hm

theorem Dead.prim {k : Nat} {s s' : Srv} (hw : WF s) (p : Prim s s') (h : Dead k s) : Dead k s' :=
  ⟨Nat.lt_of_lt_of_le h.1 (p.live hw).1, fun hl => h.2 ((p.live hw).2 k h.1 hl)⟩

/-- ending a session kills its id: the id was allocated, and no entry of any namespace survives -/
theorem dead_ending {s : Srv} (h : WF s) {sid : Sid} {ns : Ns} {t : Eio}
    (he : eioOf s.rooms ns sid = some t) (k : Nat) :
    ∃ j, sid = sidName j ∧ Dead j (ending s sid ns k) := by
  obtain ⟨j, hj, hs⟩ := h.sidAlloc _ (eioOf_some_mem he)
  exact ⟨j, hs, hj, hs ▸ not_sidLive_disconnect h.toWF0 he⟩

theorem dead_of_reach {k : Nat} {s s' : Srv} (r : Reach s s') (h : Dead k s) : Dead k s' :=
  r.preserve (fun _ _ => Dead.prim) h

/-- over any history: once dead, always dead — session ids are never reused -/
theorem Dead.run {k : Nat} {s : Srv} (hw : WF s) (h : Dead k s)
    (dec : Str → Except Err (Packet × Nat)) (cfg : Cfg) (is : List Input) :
    Dead k (run dec cfg s is).1 :=
  dead_of_reach (Reach.run hw dec cfg is) h

theorem Dead.step {k : Nat} {s : Srv} (hw : WF s) (h : Dead k s)
    (dec : Str → Except Err (Packet × Nat)) (cfg : Cfg) (i : Input) :
    Dead k (step dec cfg s i).1 :=
  dead_of_reach (Reach.step hw dec cfg i) h

/-- `sidName k` is allocated, and as long as it is connected its ack counter is at least `n` -/
def CtrGe (k n : Nat) (s : Srv) : Prop :=
  k < s.nextSid ∧ (sidLive s.rooms (sidName k) → n ≤ ctrOf s.ctr (sidName k))

theorem CtrGe.prim {k n : Nat} {s s' : Srv} (hw : WF s) (p : Prim s s') (h : CtrGe k n s) :
    CtrGe k n s' := by
  refine ⟨Nat.lt_of_lt_of_le h.1 (p.live hw).1, fun hl => ?_⟩
  have hn := h.2 ((p.live hw).2 k h.1 hl)
  cases p with
  | core hq => rw [(core_fields hq).ctr]; exact hn
  | disc he hq =>
    rename_i sid ns t
    have f := core_fields hq
    rw [f.rooms] at hl
    have hne : sidName k ≠ sid := by
      rintro rfl
      exact not_sidLive_disconnect hw.toWF0 he hl
    rw [f.ctr]
    exact (ctrOf_filter_ne _ _ _ hne).symm ▸ hn
  | addCb tok _ _ =>
    simp only [Server.addCb, ctrOf_setCtr, nextAckId_eq]
    split
    · rename_i heq; rw [heq] at hn; omega
    · exact hn
  | sess ns v _ => rw [sessSet_eq]; exact hn
  | bumpCall | callDone _ _ | connect _ | cbsFilter _ | binbuf _ | rooms _ _ _ | eioConnect _
  | drop _ => exact hn

theorem ctrOf_eq_zero_of_not_live {s : Srv} (h : WF0 s) {sid : Sid} (hl : ¬ sidLive s.rooms sid) :
    ctrOf s.ctr sid = 0 := by
  apply ctrOf_of_not_any
  intro ha
  simp only [List.any_eq_true, decide_eq_true_eq] at ha
  obtain ⟨c, hc, rfl⟩ := ha
  exact hl (h.ctrLive c hc)

theorem ctr_mono {s : Srv} (hw : WF s) (dec : Str → Except Err (Packet × Nat)) (cfg : Cfg)
    (is : List Input) (sid : Sid) (hl : sidLive (run dec cfg s is).1.rooms sid) :
    ctrOf s.ctr sid ≤ ctrOf (run dec cfg s is).1.ctr sid := by
  by_cases h0 : sidLive s.rooms sid
  · obtain ⟨ns, e, he⟩ := h0
    obtain ⟨k, hk, hs⟩ := hw.sidAlloc _ he
    simp only at hs
    subst hs
    have h1 : CtrGe k (ctrOf s.ctr (sidName k)) s := ⟨hk, fun _ => Nat.le_refl _⟩
    exact ((Reach.run hw dec cfg is).preserve (fun _ _ => CtrGe.prim) h1).2 hl
  · rw [ctrOf_eq_zero_of_not_live hw.toWF0 h0]; exact Nat.zero_le _

/-- internal callbacks and delivered results belong to `call()`s that were started -/
structure Calls (s : Srv) : Prop where
  tok : ∀ c ∈ s.cbs, ∀ n, c.2.2 = .call n → n < s.nCall
  done : ∀ d ∈ s.callDone, d.1 < s.nCall

theorem Calls.init : Calls {} := ⟨by simp, by simp⟩

theorem Calls.prim {s s' : Srv} (p : Prim s s') (h : Calls s) : Calls s' := by
  cases p with
  | core hq =>
    have := core_fields hq
    exact ⟨by rw [this.cbs, this.nCall]; exact h.tok, by rw [this.callDone, this.nCall]; exact h.done⟩
  | bumpCall =>
    exact ⟨fun c hc n hn => Nat.lt_succ_of_lt (h.tok c hc n hn),
      fun d hd => Nat.lt_succ_of_lt (h.done d hd)⟩
  | callDone args hm =>
    refine ⟨h.tok, ?_⟩
    intro d hd
    simp only [List.mem_append, List.mem_singleton] at hd
    rcases hd with hd | rfl
    · exact h.done d hd
    · exact h.tok _ hm _ rfl
  | disc _ hq =>
    have := core_fields hq
    refine ⟨?_, by rw [this.callDone, this.nCall]; exact h.done⟩
    rw [this.cbs, this.nCall]
    intro c hc
    exact h.tok c (List.mem_filter.mp hc).1
  | cbsFilter f => exact ⟨fun c hc => h.tok c (List.mem_filter.mp hc).1, h.done⟩
  | addCb tok _ ht =>
    refine ⟨?_, h.done⟩
    intro c hc n hn
    simp only [Server.addCb, List.mem_append, List.mem_singleton] at hc
    rcases hc with hc | rfl
    · exact h.tok c hc n hn
    · exact ht n hn
  | sess ns v _ => rw [sessSet_eq]; exact ⟨h.tok, h.done⟩
  | connect _ | binbuf _ | rooms _ _ _ | eioConnect _ | drop _ => exact ⟨h.tok, h.done⟩

theorem Calls.run {s : Srv} (hw : WF s) (h : Calls s) (dec : Str → Except Err (Packet × Nat))
    (cfg : Cfg) (is : List Input) : Calls (run dec cfg s is).1 :=
  (Reach.run hw dec cfg is).preserve (fun _ _ _ => Calls.prim) h

/-- `callDone` only grows, and what is appended carries numbers of internal callbacks that were
    outstanding -/
def DoneGrows (s s' : Srv) : Prop := ∃ l, s'.callDone = s.callDone ++ l

theorem DoneGrows.prim {s s' : Srv} (p : Prim s s') : DoneGrows s s' := by
  cases p with
  | core hq => exact ⟨[], by rw [(core_fields hq).callDone, List.append_nil]⟩
  | callDone args _ => exact ⟨_, rfl⟩
  | disc _ hq => exact ⟨[], by rw [(core_fields hq).callDone, List.append_nil]; rfl⟩
  | sess ns v _ => exact ⟨[], by rw [sessSet_eq, List.append_nil]⟩
  | bumpCall | connect _ | cbsFilter _ | addCb _ _ _ | binbuf _ | rooms _ _ _ | eioConnect _
  | drop _ => exact ⟨[], (List.append_nil _).symm⟩

theorem DoneGrows.run {s : Srv} (hw : WF s) (dec : Str → Except Err (Packet × Nat)) (cfg : Cfg)
    (is : List Input) : DoneGrows s (run dec cfg s is).1 :=
  (Reach.run hw dec cfg is).rel (fun _ => ⟨[], by simp⟩)
    (fun _ _ _ ⟨l1, h1⟩ ⟨l2, h2⟩ => ⟨l1 ++ l2, by rw [h2, h1, List.append_assoc]⟩)
    (fun _ _ _ => DoneGrows.prim)

end Sio.Server
