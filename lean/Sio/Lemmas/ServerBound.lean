/-
  K4 — outputs of a frame stay with its transport; what a frame can make the server store
  (property C12, `bounded_reserve`).
-/
import Sio.Lemmas.ServerView
namespace Sio.Server
open Sio.Rooms

/-- what a frame from `t` handled in state `s` may output: packets for `t`, invocations that
    carry a session id of `t` (one it has in `s`, or the one allocated by this very CONNECT),
    callbacks that `Fires` justifies, contained exceptions -/
def Out.hostileOk (dec : Str → Except Err (Packet × Nat)) (cfg : Cfg) (s : Srv) (t : Eio) (v : J) :
    Out → Prop
  | .send t' _ => t' = t
  | .invoke _ a => ∃ sid, carries sid a ∧ (onT s.rooms t sid = true ∨ sid = sidName s.nextSid)
  | .callback n args => Fires dec cfg s t v n args
  | .raised _ => True
  | _ => False

theorem hostileOk_of_confined {dec : Str → Except Err (Packet × Nat)} {cfg : Cfg} {s : Srv}
    {t : Eio} {v : J} {ok : List J → Prop}
    (hok : ∀ a, ok a → ∃ sid, carries sid a ∧ (onT s.rooms t sid = true ∨ sid = sidName s.nextSid))
    {o : Out} (h : o.confined t ok) : o.hostileOk dec cfg s t v := by
  cases o <;> simp_all [Out.confined, Out.hostileOk]

theorem frame_outs {s : Srv} (h : WF s) (dec : Str → Except Err (Packet × Nat)) (cfg : Cfg)
    (t : Eio) (v : J) : ∀ o ∈ (handleFrame dec cfg s t v).2, o.hostileOk dec cfg s t v := by
  intro o ho
  -- callbacks: the general theorem; everything else: the handlers' output shapes
  by_cases hcb : ∃ n args, o = .callback n args
  · obtain ⟨n, args, rfl⟩ := hcb
    exact fires_of_frame h ho
  have hsid : ∀ nsp a, (∃ sid, sidOf s.rooms nsp t = some sid ∧ carries sid a) →
      ∃ sid, carries sid a ∧ (onT s.rooms t sid = true ∨ sid = sidName s.nextSid) :=
    fun nsp a ⟨sid, h1, h2⟩ => ⟨sid, h2, Or.inl (onT_of_sidOf h1)⟩
  revert ho
  refine frame_cases (motive := fun r => o ∈ r.2 → o.hostileOk dec cfg s t v) ?_ ?_ ?_ ?_ ?_ ?_ ?_
  · intro e ho; rw [List.mem_singleton.mp ho]; trivial
  · intro _ _ _ _ hr ho; obtain ⟨e, rfl⟩ := hr o ho; trivial
  · intro nsp id d s₀ hc ho
    have hr : s₀.rooms = s.rooms := by rcases hc.state with rfl | rfl <;> rfl
    exact hostileOk_of_confined (hsid _) (hr ▸ handleEvent_outs cfg s₀ t _ _ _ o ho)
  · intro nsp id d s₀ _ ho
    rcases handleAck_outs _ _ _ _ _ o ho with ⟨e, rfl⟩ | ⟨_, _, n, args, _, _, _, _, rfl, _⟩
    · trivial
    · exact absurd ⟨n, args, rfl⟩ hcb
  · intro nsp d ho
    exact hostileOk_of_confined (fun a ha => ⟨_, ha, Or.inr rfl⟩) (handleConnect_outs cfg s t _ _ o ho)
  · intro ns ho; exact hostileOk_of_confined (hsid _) (handleDisconnect_outs h cfg t _ _ o ho)
  · intro _ _ _ ho; cases ho

/-- Item counts after a frame, and the shape of the reassembly buffer: every partial packet is an
    old one, a fresh header without attachments, or an old one with exactly this frame appended.
    `need` (the declared attachment count) is stored as a number and sizes nothing. -/
structure FrameBound (s s' : Srv) (v : J) : Prop where
  /-- `manager.connect` adds the room-`None` entry and the entry of the session's own room -/
  rooms : s'.rooms.length ≤ s.rooms.length + 2
  cbs : s'.cbs.length ≤ s.cbs.length
  ctr : s'.ctr.length ≤ s.ctr.length
  sess : s'.sess = s.sess
  environ : s'.environ = s.environ
  bg : s'.bg.length ≤ s.bg.length + 1
  callDone : s'.callDone.length ≤ s.callDone.length + 1
  binLen : s'.binbuf.length ≤ s.binbuf.length + 1
  binShape : ∀ e ∈ s'.binbuf, e ∈ s.binbuf ∨ e.2.got = [] ∨
    ∃ part, (e.1, part) ∈ s.binbuf ∧ e.2 = { part with got := part.got ++ [v] }

theorem FrameBound.refl (s : Srv) (v : J) : FrameBound s s v :=
  ⟨by omega, Nat.le_refl _, Nat.le_refl _, rfl, rfl, by omega, by omega, by omega,
    fun e he => Or.inl he⟩

theorem length_add_le (r : Rooms.St) (e : Entry) : (Rooms.add r e).length ≤ r.length + 1 := by
  unfold Rooms.add; split <;> simp

theorem length_connect_le {r r' : Rooms.St} {ns : Ns} {t : Eio} {sid : Sid}
    (h : Rooms.connect r ns t sid = some r') : r'.length ≤ r.length + 2 := by
  unfold Rooms.connect at h
  split at h
  · cases h
  · cases h
    have h1 := length_add_le r ⟨ns, none, sid, t⟩
    have h2 := length_add_le (Rooms.add r ⟨ns, none, sid, t⟩) ⟨ns, some sid, sid, t⟩
    omega

theorem bound_handleConnect {s : Srv} (h : WF s) (cfg : Cfg) (t : Eio) (nsp : Option Str)
    (data : Option J) (v : J) : FrameBound s (handleConnect cfg s t nsp data).1 v := by
  rcases handleConnect_state cfg s t nsp data with h1 | ⟨rooms', k, _, hc, h1 | ⟨p, hp, h1⟩⟩
  · rw [h1]; exact .refl s v
  · rw [h1]; exact { FrameBound.refl s v with rooms := length_connect_le hc }
  · rw [h1, refusedSt_eq h.toWF0 hc]; exact { FrameBound.refl s v with }

theorem bound_handleDisconnect (cfg : Cfg) (s : Srv) (t : Eio) (ns : Ns) (reason : Str) (v : J) :
    FrameBound s (handleDisconnect cfg s t ns reason).1 v := by
  rcases handleDisconnect_state cfg s t ns reason with ⟨h1, _⟩ | ⟨sid, k, _, _, h1⟩
  · rw [h1]; exact .refl s v
  · rw [h1]
    exact { FrameBound.refl s v with
      rooms := Nat.le_trans (List.length_filter_le _ _) (Nat.le_add_right _ 2)
      cbs := List.length_filter_le _ _, ctr := List.length_filter_le _ _ }

theorem bound_handleEvent (cfg : Cfg) (s : Srv) (t : Eio) (nsp : Option Str) (id : Option Nat)
    (data : Option J) (v : J) : FrameBound s (handleEvent cfg s t nsp id data).1 v := by
  have hc := core_fields (handleEvent_core cfg s t nsp id data)
  exact ⟨hc.rooms ▸ Nat.le_add_right _ 2, hc.cbs ▸ Nat.le_refl _, hc.ctr ▸ Nat.le_refl _, hc.sess,
    hc.environ, by rcases handleEvent_bg cfg s t nsp id data with h | ⟨b, _, h⟩ <;> rw [h] <;> simp,
    hc.callDone ▸ Nat.le_add_right _ 1, hc.binbuf ▸ Nat.le_add_right _ 1,
    hc.binbuf ▸ fun e he => Or.inl he⟩

theorem bound_handleAck (s : Srv) (t : Eio) (nsp : Option Str) (id : Option Nat) (data : Option J)
    (v : J) : FrameBound s (handleAck s t nsp id data).1 v := by
  rcases handleAck_state s t nsp id data with h1 | ⟨sid, i, tok, _, _, _, h1 | ⟨n, args, _, _, h1⟩⟩
  · rw [h1]; exact .refl s v
  · rw [h1]; exact { FrameBound.refl s v with cbs := List.length_filter_le _ _ }
  · rw [h1]
    exact { FrameBound.refl s v with cbs := List.length_filter_le _ _, callDone := by simp }

theorem mem_setBin {b : List (Eio × Partial)} {t : Eio} {p : Partial} {x : Eio × Partial}
    (h : x ∈ setBin b t p) : x ∈ b ∨ x = (t, p) := by
  unfold setBin at h
  simp only [List.mem_map] at h
  obtain ⟨e, he, rfl⟩ := h
  split
  · exact Or.inr rfl
  · exact Or.inl he

theorem FrameBound.of_dropBin {s s' : Srv} {t : Eio} {v : J} (h : FrameBound (dropBin s t) s' v) :
    FrameBound s s' v :=
  { h with
    binLen := Nat.le_trans h.binLen (Nat.add_le_add_right (List.length_filter_le _ _) 1)
    binShape := fun e he => by
      rcases h.binShape e he with h1 | h1 | ⟨part, h1, h2⟩
      · exact Or.inl (List.mem_filter.mp h1).1
      · exact Or.inr (Or.inl h1)
      · exact Or.inr (Or.inr ⟨part, (List.mem_filter.mp h1).1, h2⟩) }

theorem bound_storeBin {s : Srv} {t t' : Eio} {part : Partial} (v : J)
    (hf : s.binbuf.find? (fun e => e.1 = t) = some (t', part)) :
    FrameBound s (storeBin s t part v) v := by
  have hm := List.mem_of_find?_eq_some hf
  have ht : t' = t := by simpa using List.find?_some hf
  subst ht
  refine { FrameBound.refl s v with binLen := by simp [storeBin, setBin], binShape := ?_ }
  intro e he
  rcases mem_setBin he with h1 | rfl
  · exact Or.inl h1
  · exact Or.inr (Or.inr ⟨part, hm, rfl⟩)

/-- **bounded reserve**, for every decoder result — whatever attachment count or id is declared -/
theorem bound_handleFrame {s : Srv} (h : WF s) (dec : Str → Except Err (Packet × Nat)) (cfg : Cfg)
    (t : Eio) (v : J) : FrameBound s (handleFrame dec cfg s t v).1 v := by
  have hst : ∀ {s₀ s'}, s₀ = s ∨ s₀ = dropBin s t → FrameBound s₀ s' v → FrameBound s s' v := by
    rintro s₀ s' (rfl | rfl) hb
    · exact hb
    · exact hb.of_dropBin
  refine frame_cases (motive := fun r => FrameBound s r.1 v) (fun _ => .refl s v)
    (fun _ hf _ => bound_storeBin v hf) (fun hc => hst hc.state (bound_handleEvent ..))
    (fun hc => hst hc.state (bound_handleAck ..)) (fun _ _ => bound_handleConnect h ..)
    (fun _ => bound_handleDisconnect ..) ?_
  intro p n _
  refine { FrameBound.refl s v with binLen := by simp, binShape := ?_ }
  intro e he
  simp only [List.mem_append, List.mem_singleton] at he
  rcases he with he | rfl
  · exact Or.inl he
  · exact Or.inr (Or.inl rfl)

end Sio.Server
