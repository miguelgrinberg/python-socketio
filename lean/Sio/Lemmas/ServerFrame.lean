/-
  K4 — the case structure of `_handle_eio_message`: the equations of `handleFrame` branch by
  branch, and one elimination rule (`frame_cases`) over what an arriving frame can be, the two
  levels (attachment or packet; packet type) flattened.  Property proofs apply it instead of
  unfolding the handler.
-/
import Sio.Lemmas.ServerInv
namespace Sio.Server
open Sio.Rooms

/-- `Packet(encoded_packet=v)` for a frame that arrives while no binary packet is pending -/
def frameDecode (dec : Str → Except Err (Packet × Nat)) (v : J) : Except Err (Packet × Nat) :=
  match v with
  | .str (c :: cs) => dec (c :: cs)
  | .bin (_ :: _) => .error .typeError
  | other => decodeOdd other

/-- `reconstruct_binary` of the payload of a partial packet with the attachments `got` -/
def reconData (p : Partial) (got : List J) : Except Err (Option J) :=
  match p.pkt.data with
  | some j => (recon got j).map some
  | none => .ok none

/-- the pending binary packet of `t` is complete and leaves the buffer -/
def dropBin (s : Srv) (t : Eio) : Srv := { s with binbuf := s.binbuf.filter (fun e => e.1 != t) }

/-- an attachment was stored -/
def storeBin (s : Srv) (t : Eio) (part : Partial) (v : J) : Srv :=
  { s with binbuf := setBin s.binbuf t { part with got := part.got ++ [v] } }

theorem handleFrame_eq (dec : Str → Except Err (Packet × Nat)) (cfg : Cfg) (s : Srv) (t : Eio) (v : J) :
    handleFrame dec cfg s t v =
      match s.binbuf.find? (fun e => e.1 = t) with
      | some (_, part) =>
        if part.need ≤ part.got.length then (s, [.raised .valueError])
        else if part.need = (part.got ++ [v]).length then
          match reconData part (part.got ++ [v]) with
          | .error e => (storeBin s t part v, [.raised e])
          | .ok d =>
            if part.pkt.type = BINARY_EVENT then handleEvent cfg (dropBin s t) t part.pkt.nsp part.pkt.id d
            else handleAck (dropBin s t) t part.pkt.nsp part.pkt.id d
        else (storeBin s t part v, [])
      | none =>
        match frameDecode dec v with
        | .error e => (s, [.raised e])
        | .ok (p, n) => dispatchPacket cfg s t p n := rfl

theorem handleFrame_text (dec : Str → Except Err (Packet × Nat)) (cfg : Cfg) {s : Srv} {t : Eio}
    {v : J} (hf : s.binbuf.find? (fun e => e.1 = t) = none) :
    handleFrame dec cfg s t v =
      match frameDecode dec v with
      | .error e => (s, [.raised e])
      | .ok (p, n) => dispatchPacket cfg s t p n := by
  rw [handleFrame_eq, hf]

theorem handleFrame_last (dec : Str → Except Err (Packet × Nat)) (cfg : Cfg) {s : Srv} {t t' : Eio}
    {v : J} {part : Partial} {d : Option J}
    (hf : s.binbuf.find? (fun e => e.1 = t) = some (t', part)) (h1 : ¬ part.need ≤ part.got.length)
    (h2 : part.need = (part.got ++ [v]).length) (h3 : reconData part (part.got ++ [v]) = .ok d) :
    handleFrame dec cfg s t v =
      if part.pkt.type = BINARY_EVENT then handleEvent cfg (dropBin s t) t part.pkt.nsp part.pkt.id d
      else handleAck (dropBin s t) t part.pkt.nsp part.pkt.id d := by
  rw [handleFrame_eq, hf]
  dsimp only
  rw [if_neg h1, if_pos h2, h3]

theorem handleFrame_tooMany (dec : Str → Except Err (Packet × Nat)) (cfg : Cfg) {s : Srv}
    {t t0 : Eio} {v : J} {part : Partial}
    (hf : s.binbuf.find? (fun e => e.1 = t) = some (t0, part)) (h1 : part.need ≤ part.got.length) :
    handleFrame dec cfg s t v = (s, [.raised .valueError]) := by
  rw [handleFrame_eq, hf]; dsimp only; rw [if_pos h1]

theorem handleFrame_more (dec : Str → Except Err (Packet × Nat)) (cfg : Cfg) {s : Srv}
    {t t0 : Eio} {v : J} {part : Partial}
    (hf : s.binbuf.find? (fun e => e.1 = t) = some (t0, part)) (h1 : ¬ part.need ≤ part.got.length)
    (h2 : part.need ≠ (part.got ++ [v]).length) :
    handleFrame dec cfg s t v = (storeBin s t part v, []) := by
  rw [handleFrame_eq, hf]; dsimp only; rw [if_neg h1, if_neg h2]

theorem handleFrame_reconErr (dec : Str → Except Err (Packet × Nat)) (cfg : Cfg) {s : Srv}
    {t t0 : Eio} {v : J} {part : Partial} {e : Err}
    (hf : s.binbuf.find? (fun e => e.1 = t) = some (t0, part)) (h1 : ¬ part.need ≤ part.got.length)
    (h2 : part.need = (part.got ++ [v]).length) (h3 : reconData part (part.got ++ [v]) = .error e) :
    handleFrame dec cfg s t v = (storeBin s t part v, [.raised e]) := by
  rw [handleFrame_eq, hf]; dsimp only; rw [if_neg h1, if_pos h2, h3]

/-- Frame `v` from transport `t` completes an ACK packet `(nsp, id, data)` in state `s`; `s₀` is
    the state in which `_handle_ack` then runs (a completed binary packet has left the buffer). -/
inductive CompletesAck (dec : Str → Except Err (Packet × Nat)) (s : Srv) (t : Eio) (v : J) :
    Option Str → Option Nat → Option J → Srv → Prop where
  | text {p : Packet} {n : Nat} : s.binbuf.find? (fun e => e.1 = t) = none →
      frameDecode dec v = .ok (p, n) → p.type = ACK → CompletesAck dec s t v p.nsp p.id p.data s
  | binary {t' : Eio} {part : Partial} {d : Option J} :
      s.binbuf.find? (fun e => e.1 = t) = some (t', part) → ¬ part.need ≤ part.got.length →
      part.need = (part.got ++ [v]).length → reconData part (part.got ++ [v]) = .ok d →
      part.pkt.type ≠ BINARY_EVENT →
      CompletesAck dec s t v part.pkt.nsp part.pkt.id d (dropBin s t)

/-- Frame `v` from transport `t` completes an EVENT `(nsp, id, data)` in state `s`: a text EVENT
    packet, or the last attachment of a BINARY_EVENT (then `data` is the reconstructed payload and
    the packet leaves the reassembly buffer: `s₀ = dropBin s t`). -/
inductive CompletesEvent (dec : Str → Except Err (Packet × Nat)) (s : Srv) (t : Eio) (v : J) :
    Option Str → Option Nat → Option J → Srv → Prop where
  | text {p : Packet} {n : Nat} : s.binbuf.find? (fun e => e.1 = t) = none →
      frameDecode dec v = .ok (p, n) → p.type = EVENT → CompletesEvent dec s t v p.nsp p.id p.data s
  | binary {t' : Eio} {part : Partial} {d : Option J} :
      s.binbuf.find? (fun e => e.1 = t) = some (t', part) → ¬ part.need ≤ part.got.length →
      part.need = (part.got ++ [v]).length → reconData part (part.got ++ [v]) = .ok d →
      part.pkt.type = BINARY_EVENT →
      CompletesEvent dec s t v part.pkt.nsp part.pkt.id d (dropBin s t)

/-- What a frame from `t` can be, with the two levels of `_handle_eio_message` (attachment or
    packet; packet type) flattened: a contained exception; an attachment stored; an EVENT or ACK,
    text or completed binary (`s₀` is `s`, or `s` without the completed packet); CONNECT; DISCONNECT;
    the header of a binary packet. -/
theorem frame_cases {dec : Str → Except Err (Packet × Nat)} {cfg : Cfg} {s : Srv} {t : Eio} {v : J}
    {motive : Srv × List Out → Prop}
    (raised : ∀ e, motive (s, [.raised e]))
    (store : ∀ {t' part} o, s.binbuf.find? (fun e => e.1 = t) = some (t', part) →
      (∀ x ∈ o, ∃ e, x = .raised e) → motive (storeBin s t part v, o))
    (event : ∀ {nsp id d s₀}, CompletesEvent dec s t v nsp id d s₀ →
      motive (handleEvent cfg s₀ t nsp id d))
    (ack : ∀ {nsp id d s₀}, CompletesAck dec s t v nsp id d s₀ → motive (handleAck s₀ t nsp id d))
    (connect : ∀ nsp d, motive (handleConnect cfg s t nsp d))
    (disconnect : ∀ ns, motive ((handleDisconnect cfg s t ns "client disconnect".toList).1,
      (handleDisconnect cfg s t ns "client disconnect".toList).2.1))
    (header : ∀ p n, s.binbuf.find? (fun e => e.1 = t) = none →
      motive ({ s with binbuf := s.binbuf ++ [(t, ⟨p, n, []⟩)] }, [])) :
    motive (handleFrame dec cfg s t v) := by
  rw [handleFrame_eq]
  cases hf : s.binbuf.find? (fun e => e.1 = t) with
  | some tp =>
    obtain ⟨t', part⟩ := tp
    dsimp only
    by_cases h1 : part.need ≤ part.got.length
    · rw [if_pos h1]; exact raised _
    rw [if_neg h1]
    by_cases h2 : part.need = (part.got ++ [v]).length
    · rw [if_pos h2]
      cases hd : reconData part (part.got ++ [v]) with
      | error e => exact store _ hf (fun x hx => ⟨_, List.mem_singleton.mp hx⟩)
      | ok d =>
        dsimp only
        by_cases h3 : part.pkt.type = BINARY_EVENT
        · rw [if_pos h3]; exact event (.binary hf h1 h2 hd h3)
        · rw [if_neg h3]; exact ack (.binary hf h1 h2 hd h3)
    · rw [if_neg h2]; exact store _ hf (fun x hx => nomatch hx)
  | none =>
    dsimp only
    cases hd : frameDecode dec v with
    | error e => exact raised _
    | ok pn =>
      obtain ⟨p, n⟩ := pn
      dsimp only
      unfold dispatchPacket
      by_cases h1 : p.type = CONNECT
      · rw [if_pos h1]; exact connect _ _
      rw [if_neg h1]
      by_cases h2 : p.type = DISCONNECT
      · rw [if_pos h2]; exact disconnect _
      rw [if_neg h2]
      by_cases h3 : p.type = EVENT
      · rw [if_pos h3]; exact event (.text hf hd h3)
      rw [if_neg h3]
      by_cases h4 : p.type = ACK
      · rw [if_pos h4]; exact ack (.text hf hd h4)
      rw [if_neg h4]
      split
      · exact header _ _ hf
      · exact raised _

end Sio.Server
