/-
  K6 (pub/sub), set level: several room tables whose clients are disjoint (`Placed`) against the one
  table that is their union (`Union`); every operation of C07, applied by each host to its own
  clients, keeps both.
-/
import Sio.Lemmas.PubSubStep
namespace Sio.PubSub
open Sio.Rooms

/-- every client (and every transport) lives on exactly one host -/
structure Placed (home : Sid → HostId) (ehome : Eio → HostId) (vs : List View) : Prop where
  ids : (vs.map Prod.fst).Nodup
  inv : ∀ v ∈ vs, Inv v.2
  home : ∀ v ∈ vs, ∀ e ∈ v.2, home e.sid = v.1
  ehome : ∀ v ∈ vs, ∀ e ∈ v.2, ehome e.eio = v.1

/-- the single server's table holds exactly the entries of all hosts -/
def Union (vs : List View) (s : Rooms.St) : Prop := ∀ e, e ∈ s ↔ ∃ v ∈ vs, e ∈ v.2

namespace Placed
variable {home : Sid → HostId} {ehome : Eio → HostId} {vs : List View}

theorem same_host (hp : Placed home ehome vs) {v w : View} (hv : v ∈ vs) (hw : w ∈ vs)
    {e₁ e₂ : Entry} (h1 : e₁ ∈ v.2) (h2 : e₂ ∈ w.2) (hs : e₁.sid = e₂.sid) : v = w :=
  eq_of_map_eq hp.ids hv hw (by rw [← hp.home v hv e₁ h1, ← hp.home w hw e₂ h2, hs])

theorem same_host_eio (hp : Placed home ehome vs) {v w : View} (hv : v ∈ vs) (hw : w ∈ vs)
    {e₁ e₂ : Entry} (h1 : e₁ ∈ v.2) (h2 : e₂ ∈ w.2) (hs : e₁.eio = e₂.eio) : v = w :=
  eq_of_map_eq hp.ids hv hw (by rw [← hp.ehome v hv e₁ h1, ← hp.ehome w hw e₂ h2, hs])

end Placed

section queries
variable {home : Sid → HostId} {ehome : Eio → HostId} {vs : List View} {s : Rooms.St}

theorem union_eioOf (hp : Placed home ehome vs) (hu : Union vs s) (hs : Inv s) (ns : Ns) (sid : Sid)
    (eio : Eio) : eioOf s ns sid = some eio ↔ ∃ v ∈ vs, eioOf v.2 ns sid = some eio := by
  rw [hs.eioOf_iff, hu]
  exact exists_congr fun v => and_congr_right fun hv => (hp.inv v hv).eioOf_iff.symm

theorem union_eioOf_none (hp : Placed home ehome vs) (hu : Union vs s) (hs : Inv s) (ns : Ns)
    (sid : Sid) : eioOf s ns sid = none ↔ ∀ v ∈ vs, eioOf v.2 ns sid = none := by
  simp only [Option.eq_none_iff_forall_ne_some, ne_eq, union_eioOf hp hu hs, not_exists, not_and]
  exact ⟨fun h v hv eio => h eio v hv, fun h eio v hv => h v hv eio⟩

theorem union_sidOf (hp : Placed home ehome vs) (hu : Union vs s) (hs : Inv s) (ns : Ns) (eio : Eio)
    (sid : Sid) : sidOf s ns eio = some sid ↔ ∃ v ∈ vs, sidOf v.2 ns eio = some sid := by
  rw [hs.sidOf_iff, hu]
  exact exists_congr fun v => and_congr_right fun hv => (hp.inv v hv).sidOf_iff.symm

theorem union_isMember (hu : Union vs s) (ns : Ns) (room : Option Room) (sid : Sid) :
    isMember s ns room sid = true ↔ ∃ v ∈ vs, isMember v.2 ns room sid = true := by
  simp only [isMember_iff]
  constructor
  · rintro ⟨eio, he⟩
    obtain ⟨v, hv, hev⟩ := (hu _).mp he
    exact ⟨v, hv, eio, hev⟩
  · rintro ⟨v, hv, eio, he⟩
    exact ⟨eio, (hu _).mpr ⟨v, hv, he⟩⟩

theorem union_recipients (hp : Placed home ehome vs) (hu : Union vs s) (hs : Inv s) (ns : Ns)
    (t : Target) (skip : List Sid) (sid : Sid) :
    sid ∈ (recipients s ns t skip).map Prod.fst ↔
      ∃ v ∈ vs, sid ∈ (recipients v.2 ns t skip).map Prod.fst := by
  rw [mem_recipients_iff hs]
  constructor
  · rintro ⟨hm, ha, hk⟩
    obtain ⟨v, hv, hmv⟩ := (union_isMember hu ns none sid).mp hm
    refine ⟨v, hv, (mem_recipients_iff (hp.inv v hv) ns t skip sid).mpr ⟨hmv, ?_, hk⟩⟩
    obtain ⟨eio, he⟩ := isMember_iff.mp hmv
    -- any room membership of `sid` lives on the same host
    have key : ∀ room, isMember s ns room sid = true → isMember v.2 ns room sid = true := by
      intro room hroom
      obtain ⟨w, hw, hmw⟩ := (union_isMember hu ns room sid).mp hroom
      obtain ⟨eio', he'⟩ := isMember_iff.mp hmw
      have : v = w := hp.same_host hv hw he he' rfl
      subst this; exact hmw
    cases t with
    | all => trivial
    | one r => exact key _ ha
    | many rs =>
      obtain ⟨r, hr, hmr⟩ := ha
      exact ⟨r, hr, key _ hmr⟩
  · rintro ⟨v, hv, hin⟩
    obtain ⟨hm, ha, hk⟩ := (mem_recipients_iff (hp.inv v hv) ns t skip sid).mp hin
    refine ⟨(union_isMember hu ns none sid).mpr ⟨v, hv, hm⟩, ?_, hk⟩
    cases t with
    | all => trivial
    | one r => exact (union_isMember hu ns _ sid).mpr ⟨v, hv, ha⟩
    | many rs =>
      obtain ⟨r, hr, hmr⟩ := ha
      exact ⟨r, hr, (union_isMember hu ns _ sid).mpr ⟨v, hv, hmr⟩⟩

end queries

section seen
variable {home : Sid → HostId} {ehome : Eio → HostId} {vs : List View} {s : Rooms.St}

/-- what a client sees of an emit applied on every host = what it sees on the single server -/
theorem seenEmit_union (hp : Placed home ehome vs) (hu : Union vs s) (hs : Inv s) (ns : Ns)
    (t : Target) (skip : List Sid) (ev : J) (args : List J) (w : Bool) (sid : Sid) :
    vs.flatMap (fun v => seenEmit v.2 ns t skip ev args w sid) = seenEmit s ns t skip ev args w sid := by
  unfold seenEmit
  rw [flatMap_unique vs (nodup_of_nodup_map hp.ids)
    (fun v => sid ∈ (recipients v.2 ns t skip).map Prod.fst)]
  · simp only [union_recipients hp hu hs ns t skip sid]
  · intro x hx y hy px py
    obtain ⟨e1, h1⟩ := recipient_entry (hp.inv x hx) px
    obtain ⟨e2, h2⟩ := recipient_entry (hp.inv y hy) py
    exact hp.same_host hx hy h1 h2 rfl

/-- the issuing host first, then the others: the same, because only one host contributes -/
theorem seenEmit_union_split (hp : Placed home ehome vs) (hu : Union vs s) (hs : Inv s) (ns : Ns)
    (t : Target) (skip : List Sid) (ev : J) (args : List J) (w : Bool) (sid : Sid) (hv : View)
    (hin : hv ∈ vs) :
    seenEmit hv.2 ns t skip ev args w sid ++
      vs.flatMap (fun v => if hv.1 = v.1 then [] else seenEmit v.2 ns t skip ev args w sid) =
    seenEmit s ns t skip ev args w sid := by
  rw [← seenEmit_union hp hu hs ns t skip ev args w sid]
  unfold seenEmit
  refine flatMap_unique_split vs Prod.fst hp.ids
    (fun v => sid ∈ (recipients v.2 ns t skip).map Prod.fst) _ ?_ hin
  intro x hx y hy px py
  obtain ⟨e1, h1⟩ := recipient_entry (hp.inv x hx) px
  obtain ⟨e2, h2⟩ := recipient_entry (hp.inv y hy) py
  exact hp.same_host hx hy h1 h2 rfl

end seen

/-- `enter_room` where the session is connected, nothing elsewhere -/
def enterLocal (r : Rooms.St) (ns : Ns) (sid : Sid) (room : Room) : Rooms.St :=
  match eioOf r ns sid with
  | some eio => add r ⟨ns, some room, sid, eio⟩
  | none => r

/-- what an operation does to the room table of one host, once every host has caught up -/
def localRooms (op : Op) (v : View) : Rooms.St :=
  match op with
  | .connect hid ns eio sid => if v.1 = hid then Rooms.apply v.2 (.connect ns eio sid) else v.2
  | .enter _ ns sid room => enterLocal v.2 ns sid room
  | .leave _ ns sid room => Rooms.leave v.2 ns sid (some room)
  | .close _ ns room => Rooms.closeRoom v.2 ns room
  | .disconnect _ ns sid => Rooms.disconnect v.2 ns sid
  | _ => v.2

/-- what it does to the table of the single server -/
def singleRooms (op : Op) (s : Rooms.St) : Rooms.St :=
  match op with
  | .connect _ ns eio sid => Rooms.apply s (.connect ns eio sid)
  | .enter _ ns sid room => enterLocal s ns sid room
  | .leave _ ns sid room => Rooms.leave s ns sid (some room)
  | .close _ ns room => Rooms.closeRoom s ns room
  | .disconnect _ ns sid => Rooms.disconnect s ns sid
  | _ => s

/-- the operation names hosts that exist, and a `connect` happens on the host where the session
    (and the transport) lives -/
def OpOk (home : Sid → HostId) (ehome : Eio → HostId) (ids : List HostId) : Op → Prop
  | .connect hid _ eio sid => hid ∈ ids ∧ home sid = hid ∧ ehome eio = hid
  | .enter via _ _ _ => via ∈ ids
  | .leave via _ _ _ => via ∈ ids
  | .close via _ _ => via ∈ ids
  | .disconnect via _ _ => via ∈ ids
  | .emit via _ _ _ to _ cb =>
    (∀ v, via = some v → v ∈ ids) ∧ Target.ok to ∧ (cb.isSome → via.isSome ∧ ∃ r, to = .one r)
  | .ack _ _ _ _ => True
  | .deliver _ _ => False
  | .drain => False

theorem inv_enterLocal {r : Rooms.St} (h : Inv r) (ns : Ns) (sid : Sid) (room : Room) :
    Inv (enterLocal r ns sid room) := by
  unfold enterLocal
  split
  · rename_i eio hq; exact h.add (eioOf_some_mem hq)
  · exact h

theorem inv_singleRooms {s : Rooms.St} (h : Inv s) (op : Op) : Inv (singleRooms op s) := by
  cases op with
  | connect hid ns eio sid => exact h.apply (.connect ns eio sid)
  | enter => exact inv_enterLocal h _ _ _
  | leave => exact h.leave _ _ _
  | close => exact h.closeRoom _ _
  | disconnect => exact h.disconnect _ _
  | _ => exact h

theorem inv_localRooms {v : View} (h : Inv v.2) (op : Op) : Inv (localRooms op v) := by
  cases op with
  | connect hid ns eio sid =>
    simp only [localRooms]
    split
    · exact h.apply (.connect ns eio sid)
    · exact h
  | enter => exact inv_enterLocal h _ _ _
  | leave => exact h.leave _ _ _
  | close => exact h.closeRoom _ _
  | disconnect => exact h.disconnect _ _
  | _ => exact h

section pres
variable {home : Sid → HostId} {ehome : Eio → HostId} {vs : List View} {s : Rooms.St}

theorem map_fst_local (g : View → Rooms.St) :
    (vs.map (fun v => (v.1, g v))).map Prod.fst = vs.map Prod.fst := by
  rw [List.map_map]; rfl

theorem placed_map (hp : Placed home ehome vs) (g : View → Rooms.St) (hinv : ∀ v ∈ vs, Inv (g v))
    (hloc : ∀ v ∈ vs, ∀ e ∈ g v, home e.sid = v.1 ∧ ehome e.eio = v.1) :
    Placed home ehome (vs.map (fun v => (v.1, g v))) where
  ids := by rw [map_fst_local]; exact hp.ids
  inv := List.forall_mem_map.mpr hinv
  home := List.forall_mem_map.mpr fun v hv e he => (hloc v hv e he).1
  ehome := List.forall_mem_map.mpr fun v hv e he => (hloc v hv e he).2

theorem union_filter (hu : Union vs s) (p : Entry → Bool) :
    Union (vs.map (fun v => (v.1, v.2.filter p))) (s.filter p) := by
  intro e
  rw [List.mem_filter, hu]
  constructor
  · rintro ⟨⟨v, hv, he⟩, hpe⟩
    exact ⟨(v.1, v.2.filter p), List.mem_map_of_mem hv, List.mem_filter.mpr ⟨he, hpe⟩⟩
  · rintro ⟨v', hv', he⟩
    obtain ⟨v, hv, rfl⟩ := List.mem_map.mp hv'
    obtain ⟨he1, he2⟩ := List.mem_filter.mp he
    exact ⟨⟨v, hv, he1⟩, he2⟩

/-- one entry is added on the host `v0` (and to the single table), nothing else changes -/
theorem union_add_at (hu : Union vs s) (v0 : View) (hv0 : v0 ∈ vs) (g : View → Rooms.St) (s' : Rooms.St)
    (news : List Entry)
    (hg0 : ∀ e, e ∈ g v0 ↔ e ∈ v0.2 ∨ e ∈ news) (hgo : ∀ v ∈ vs, v ≠ v0 → g v = v.2)
    (hs' : ∀ e, e ∈ s' ↔ e ∈ s ∨ e ∈ news) :
    Union (vs.map (fun v => (v.1, g v))) s' := by
  intro e
  rw [hs', hu]
  constructor
  · rintro (⟨v, hv, he⟩ | hn)
    · refine ⟨(v.1, g v), List.mem_map_of_mem hv, ?_⟩
      by_cases hvv : v = v0
      · subst hvv; exact (hg0 e).mpr (Or.inl he)
      · exact (hgo v hv hvv).symm ▸ he
    · exact ⟨(v0.1, g v0), List.mem_map_of_mem hv0, (hg0 e).mpr (Or.inr hn)⟩
  · rintro ⟨v', hv', he⟩
    obtain ⟨v, hv, rfl⟩ := List.mem_map.mp hv'
    by_cases hvv : v = v0
    · subst hvv
      exact ((hg0 e).mp he).imp_left fun h => ⟨v, hv, h⟩
    · exact Or.inl ⟨v, hv, hgo v hv hvv ▸ he⟩

theorem placed_add_at (hp : Placed home ehome vs) (v0 : View) (hv0 : v0 ∈ vs) (g : View → Rooms.St)
    (news : List Entry) (hinv : ∀ v ∈ vs, Inv (g v))
    (hg0 : ∀ e, e ∈ g v0 ↔ e ∈ v0.2 ∨ e ∈ news) (hgo : ∀ v ∈ vs, v ≠ v0 → g v = v.2)
    (hnew : ∀ e ∈ news, home e.sid = v0.1 ∧ ehome e.eio = v0.1) :
    Placed home ehome (vs.map (fun v => (v.1, g v))) := by
  refine placed_map hp g hinv fun v hv e he => ?_
  by_cases hvv : v = v0
  · subst hvv
    rcases (hg0 e).mp he with h | h
    · exact ⟨hp.home v hv e h, hp.ehome v hv e h⟩
    · exact hnew e h
  · rw [hgo v hv hvv] at he
    exact ⟨hp.home v hv e he, hp.ehome v hv e he⟩

theorem eioOf_none_elsewhere (hp : Placed home ehome vs) {v0 v : View} (hv0 : v0 ∈ vs) (hv : v ∈ vs)
    (hne : v ≠ v0) {ns : Ns} {sid : Sid} {eio : Eio} (h0 : eioOf v0.2 ns sid = some eio) :
    eioOf v.2 ns sid = none := by
  cases hq : eioOf v.2 ns sid with
  | none => rfl
  | some e2 =>
    exact absurd (hp.same_host hv hv0 (eioOf_some_mem hq) (eioOf_some_mem h0) rfl) hne

/-- the entries a `connect` adds: none if the session or the transport is already known -/
def connectNews (r : Rooms.St) (ns : Ns) (eio : Eio) (sid : Sid) : List Entry :=
  if eioOf r ns sid = none ∧ sidOf r ns eio = none then [⟨ns, none, sid, eio⟩, ⟨ns, some sid, sid, eio⟩]
  else []

theorem mem_apply_connect (r : Rooms.St) (ns : Ns) (eio : Eio) (sid : Sid) (e : Entry) :
    e ∈ Rooms.apply r (.connect ns eio sid) ↔ e ∈ r ∨ e ∈ connectNews r ns eio sid := by
  simp only [Rooms.apply, Rooms.connect, connectNews]
  cases eioOf r ns sid <;> cases sidOf r ns eio <;> simp [mem_add, or_assoc]

/-- **Every operation keeps the cluster a partition of the single server.** -/
theorem local_preserves (hp : Placed home ehome vs) (hu : Union vs s) (hs : Inv s) (op : Op)
    (hop : OpOk home ehome (vs.map Prod.fst) op) :
    Placed home ehome (vs.map (fun v => (v.1, localRooms op v))) ∧
    Union (vs.map (fun v => (v.1, localRooms op v))) (singleRooms op s) := by
  have hsame : ∀ (g : View → Rooms.St), (∀ v ∈ vs, g v = v.2) →
      vs.map (fun v => (v.1, g v)) = vs := by
    intro g hg
    exact (List.map_congr_left fun v hv => by rw [hg v hv]; rfl).trans (List.map_id vs)
  cases op with
  | connect hid ns eio sid =>
    obtain ⟨hin, hh, he⟩ := hop
    obtain ⟨v0, hv0, rfl⟩ := List.mem_map.mp hin
    -- a lookup that finds only what lives on `v0` fails on the union exactly when it fails there
    have agree : ∀ {α : Type} (q : Rooms.St → Option α),
        (∀ x, q s = some x ↔ ∃ v ∈ vs, q v.2 = some x) →
        (∀ v ∈ vs, ∀ x, q v.2 = some x → v.1 = v0.1) → (q s = none ↔ q v0.2 = none) := by
      intro α q hunion hhome
      constructor
      · intro hn
        cases hq : q v0.2 with
        | none => rfl
        | some x => rw [(hunion x).mpr ⟨v0, hv0, hq⟩] at hn; cases hn
      · intro hn
        cases hq : q s with
        | none => rfl
        | some x =>
          obtain ⟨v, hv, hqv⟩ := (hunion x).mp hq
          rw [eq_of_map_eq hp.ids hv hv0 (hhome v hv x hqv), hn] at hqv; cases hqv
    have h1 := agree (fun r => eioOf r ns sid) (union_eioOf hp hu hs ns sid)
      (fun v hv x hq => (hp.home v hv _ (eioOf_some_mem hq)).symm.trans hh)
    have h2 := agree (fun r => sidOf r ns eio) (union_sidOf hp hu hs ns eio)
      (fun v hv x hq => (hp.ehome v hv _ (sidOf_some_mem hq)).symm.trans he)
    have hg0 : ∀ e, e ∈ localRooms (.connect v0.1 ns eio sid) v0 ↔
        e ∈ v0.2 ∨ e ∈ connectNews v0.2 ns eio sid := fun e => by
      rw [show localRooms (.connect v0.1 ns eio sid) v0 = Rooms.apply v0.2 (.connect ns eio sid) from
        if_pos rfl, mem_apply_connect]
    have hgo : ∀ v ∈ vs, v ≠ v0 → localRooms (.connect v0.1 ns eio sid) v = v.2 :=
      fun v hv hne => if_neg (fun h => hne (eq_of_map_eq hp.ids hv hv0 h))
    refine ⟨placed_add_at hp v0 hv0 _ _ (fun v hv => inv_localRooms (hp.inv v hv) _) hg0 hgo ?_,
      union_add_at hu v0 hv0 _ _ _ hg0 hgo fun e => ?_⟩
    · intro e hmem
      unfold connectNews at hmem
      split at hmem
      · simp only [List.mem_cons, List.not_mem_nil, or_false] at hmem
        rcases hmem with rfl | rfl <;> exact ⟨hh, he⟩
      · cases hmem
    · rw [show singleRooms (.connect v0.1 ns eio sid) s = Rooms.apply s (.connect ns eio sid) from rfl,
        mem_apply_connect]
      simp only [connectNews, h1, h2]
  | enter via ns sid room =>
    cases hq : eioOf s ns sid with
    | none =>
      have hall : ∀ v ∈ vs, localRooms (.enter via ns sid room) v = v.2 := by
        intro v hv
        simp only [localRooms, enterLocal, (union_eioOf_none hp hu hs ns sid).mp hq v hv]
      rw [hsame _ hall]
      simp only [singleRooms, enterLocal, hq]
      exact ⟨hp, hu⟩
    | some eio =>
      obtain ⟨v0, hv0, hq0⟩ := (union_eioOf hp hu hs ns sid eio).mp hq
      have hgo : ∀ v ∈ vs, v ≠ v0 → localRooms (.enter via ns sid room) v = v.2 := by
        intro v hv hne
        simp only [localRooms, enterLocal, eioOf_none_elsewhere hp hv0 hv hne hq0]
      have hg0 : ∀ e, e ∈ localRooms (.enter via ns sid room) v0 ↔
          e ∈ v0.2 ∨ e ∈ [(⟨ns, some room, sid, eio⟩ : Entry)] := by
        intro e
        simp only [localRooms, enterLocal, hq0, mem_add, List.mem_singleton]
      have hs' : ∀ e, e ∈ singleRooms (.enter via ns sid room) s ↔
          e ∈ s ∨ e ∈ [(⟨ns, some room, sid, eio⟩ : Entry)] := by
        intro e
        simp only [singleRooms, enterLocal, hq, mem_add, List.mem_singleton]
      refine ⟨placed_add_at hp v0 hv0 _ _ (fun v hv => inv_localRooms (hp.inv v hv) _) hg0 hgo ?_,
        union_add_at hu v0 hv0 _ _ _ hg0 hgo hs'⟩
      intro e hmem
      simp only [List.mem_singleton] at hmem
      subst hmem
      have hent := eioOf_some_mem hq0
      exact ⟨hp.home v0 hv0 ⟨ns, none, sid, eio⟩ hent, hp.ehome v0 hv0 ⟨ns, none, sid, eio⟩ hent⟩
  | leave via ns sid room | close via ns room | disconnect via ns sid =>
    refine ⟨placed_map hp _ (fun v hv => inv_localRooms (hp.inv v hv) _) fun v hv e he => ?_,
      union_filter hu _⟩
    have := (List.mem_filter.mp he).1
    exact ⟨hp.home v hv e this, hp.ehome v hv e this⟩
  | emit | ack =>
    show Placed home ehome (vs.map fun v => v) ∧ Union (vs.map fun v => v) s
    rw [List.map_id']; exact ⟨hp, hu⟩
  | deliver | drain => exact False.elim hop

end pres

end Sio.PubSub
