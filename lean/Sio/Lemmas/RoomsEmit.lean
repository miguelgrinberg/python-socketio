/-
  Helper lemmas for K3 (rooms): who is in a participant / recipient list, and how often.
-/
import Sio.Lemmas.Rooms
namespace Sio.Rooms

theorem mem_roomMembers {s : St} {ns : Ns} {room : Option Room} {sid : Sid} {eio : Eio} :
    (sid, eio) ∈ roomMembers s ns room ↔ (⟨ns, room, sid, eio⟩ : Entry) ∈ s := by
  simp only [roomMembers, List.mem_map, List.mem_filter, decide_eq_true_eq, Prod.mk.injEq]
  constructor
  · rintro ⟨⟨a, b, c, d⟩, ⟨he, h1, h2⟩, h3, h4⟩
    simp only at h1 h2 h3 h4
    subst h1 h2 h3 h4; exact he
  · intro he
    exact ⟨_, ⟨he, rfl, rfl⟩, rfl, rfl⟩

theorem mem_fst_roomMembers {s : St} {ns : Ns} {room : Option Room} {sid : Sid} :
    sid ∈ (roomMembers s ns room).map Prod.fst ↔ isMember s ns room sid = true := by
  rw [isMember_iff]
  simp only [List.mem_map, Prod.exists, exists_and_right, exists_eq_right]
  constructor
  · rintro ⟨eio, h⟩; exact ⟨eio, mem_roomMembers.mp h⟩
  · rintro ⟨eio, h⟩; exact ⟨eio, mem_roomMembers.mpr h⟩

/-- within a namespace, an entry is determined by its room and session -/
theorem Inv.entry_eq {s : St} (h : Inv s) {a b : Entry} (ha : a ∈ s) (hb : b ∈ s)
    (h1 : a.ns = b.ns) (h2 : a.room = b.room) (h3 : a.sid = b.sid) : a = b := by
  have := h.sidEio a ha b hb h1 h3
  cases a; cases b; simp_all

theorem Inv.roomMembers_nodup {s : St} (h : Inv s) (ns : Ns) (room : Option Room) :
    ((roomMembers s ns room).map Prod.fst).Nodup := by
  rw [roomMembers, List.map_map, List.Nodup, List.pairwise_map]
  refine (h.nodup.filter _).imp_of_mem fun ha hb hne heq => hne ?_
  simp only [List.mem_filter, decide_eq_true_eq] at ha hb
  exact h.entry_eq ha.1 hb.1 (ha.2.1.trans hb.2.1.symm) (ha.2.2.trans hb.2.2.symm) heq

theorem any_fst_iff {acc : List (Sid × Eio)} {x : Sid} :
    acc.any (fun q => decide (q.1 = x)) = true ↔ x ∈ acc.map Prod.fst := by
  simp only [List.any_eq_true, decide_eq_true_eq, List.mem_map]

theorem mem_mergeBySid {acc l : List (Sid × Eio)} {p : Sid × Eio} :
    p ∈ mergeBySid acc l → p ∈ acc ∨ p ∈ l := by
  induction l generalizing acc with
  | nil => intro h; exact Or.inl h
  | cons q l ih =>
    intro h
    unfold mergeBySid at h
    split at h
    · rcases ih h with h | h
      · exact Or.inl h
      · exact Or.inr (List.mem_cons_of_mem _ h)
    · rcases ih h with h | h
      · rcases List.mem_append.mp h with h | h
        · exact Or.inl h
        · simp at h; subst h; exact Or.inr List.mem_cons_self
      · exact Or.inr (List.mem_cons_of_mem _ h)

theorem mem_fst_mergeBySid {acc l : List (Sid × Eio)} {x : Sid} :
    x ∈ (mergeBySid acc l).map Prod.fst ↔ x ∈ acc.map Prod.fst ∨ x ∈ l.map Prod.fst := by
  induction l generalizing acc with
  | nil => simp [mergeBySid]
  | cons q l ih =>
    unfold mergeBySid
    split
    · rename_i hq
      rw [ih, List.map_cons, List.mem_cons]
      have := any_fst_iff.mp hq
      constructor
      · rintro (h | h)
        · exact Or.inl h
        · exact Or.inr (Or.inr h)
      · rintro (h | h | h)
        · exact Or.inl h
        · exact Or.inl (h ▸ this)
        · exact Or.inr h
    · simp only [ih, List.map_append, List.mem_append, List.map_cons, List.map_nil, List.mem_cons,
        List.not_mem_nil, or_false, or_assoc]

theorem nodup_mergeBySid {acc l : List (Sid × Eio)} (h : (acc.map Prod.fst).Nodup) :
    ((mergeBySid acc l).map Prod.fst).Nodup := by
  induction l generalizing acc with
  | nil => simpa [mergeBySid] using h
  | cons q l ih =>
    unfold mergeBySid
    split
    · exact ih h
    · rename_i hq
      apply ih
      rw [List.map_append, List.nodup_append]
      refine ⟨h, by simp, ?_⟩
      intro a ha b hb
      simp at hb; subst hb
      rintro rfl
      exact hq (any_fst_iff.mpr ha)

/-- the fold of `get_participants` over a list of rooms, from any accumulator -/
def manyFrom (s : St) (ns : Ns) (acc : List (Sid × Eio)) (rs : List Room) : List (Sid × Eio) :=
  rs.foldl (fun acc r => mergeBySid acc (roomMembers s ns (some r))) acc

theorem mem_manyFrom {s : St} {ns : Ns} {acc : List (Sid × Eio)} {rs : List Room}
    {p : Sid × Eio} :
    p ∈ manyFrom s ns acc rs → p ∈ acc ∨ ∃ r ∈ rs, p ∈ roomMembers s ns (some r) := by
  induction rs generalizing acc with
  | nil => intro h; exact Or.inl h
  | cons r rs ih =>
    intro h
    simp only [manyFrom, List.foldl_cons] at h
    rcases ih h with h | ⟨r', hr', h⟩
    · rcases mem_mergeBySid h with h | h
      · exact Or.inl h
      · exact Or.inr ⟨r, List.mem_cons_self, h⟩
    · exact Or.inr ⟨r', List.mem_cons_of_mem _ hr', h⟩

theorem mem_fst_manyFrom {s : St} {ns : Ns} {acc : List (Sid × Eio)} {rs : List Room}
    {x : Sid} :
    x ∈ (manyFrom s ns acc rs).map Prod.fst ↔
      x ∈ acc.map Prod.fst ∨ ∃ r ∈ rs, isMember s ns (some r) x = true := by
  induction rs generalizing acc with
  | nil => simp [manyFrom]
  | cons r rs ih =>
    simp only [manyFrom, List.foldl_cons]
    have := ih (acc := mergeBySid acc (roomMembers s ns (some r)))
    simp only [manyFrom] at this
    rw [this, mem_fst_mergeBySid, mem_fst_roomMembers]
    constructor
    · rintro ((h | h) | ⟨r', hr', h⟩)
      · exact Or.inl h
      · exact Or.inr ⟨r, List.mem_cons_self, h⟩
      · exact Or.inr ⟨r', List.mem_cons_of_mem _ hr', h⟩
    · rintro (h | ⟨r', hr', h⟩)
      · exact Or.inl (Or.inl h)
      · rcases List.mem_cons.mp hr' with rfl | hr'
        · exact Or.inl (Or.inr h)
        · exact Or.inr ⟨r', hr', h⟩

theorem nodup_manyFrom {s : St} {ns : Ns} {acc : List (Sid × Eio)} {rs : List Room}
    (h : (acc.map Prod.fst).Nodup) : ((manyFrom s ns acc rs).map Prod.fst).Nodup := by
  induction rs generalizing acc with
  | nil => exact h
  | cons r rs ih =>
    simp only [manyFrom, List.foldl_cons]
    exact ih (nodup_mergeBySid h)

/-- "member of at least one addressed room", on the model -/
def addressed (s : St) (ns : Ns) (sid : Sid) : Target → Prop
  | .all => True
  | .one r => isMember s ns (some r) sid = true
  | .many rs => ∃ r ∈ rs, isMember s ns (some r) sid = true

/-- every participant pair is an entry of one of the addressed rooms -/
theorem mem_participants {s : St} {ns : Ns} {t : Target} {p : Sid × Eio}
    (h : p ∈ participants s ns t) : ∃ room, (⟨ns, room, p.1, p.2⟩ : Entry) ∈ s := by
  cases t with
  | all => exact ⟨none, mem_roomMembers.mp h⟩
  | one r => exact ⟨some r, mem_roomMembers.mp h⟩
  | many rs =>
    rcases mem_manyFrom (acc := []) h with h | ⟨r, _, h⟩
    · cases h
    · exact ⟨some r, mem_roomMembers.mp h⟩

theorem Inv.mem_fst_participants {s : St} (h : Inv s) {ns : Ns} {t : Target} {sid : Sid} :
    sid ∈ (participants s ns t).map Prod.fst ↔
      isMember s ns none sid = true ∧ addressed s ns sid t := by
  have up : ∀ room, isMember s ns room sid = true → isMember s ns none sid = true := by
    intro room hm
    obtain ⟨eio, he⟩ := isMember_iff.mp hm
    exact isMember_iff.mpr ⟨eio, h.inNone _ he⟩
  cases t with
  | all => simp [participants, addressed, mem_fst_roomMembers]
  | one r =>
    simp only [participants, addressed, mem_fst_roomMembers]
    exact ⟨fun hm => ⟨up _ hm, hm⟩, fun hm => hm.2⟩
  | many rs =>
    have := mem_fst_manyFrom (s := s) (ns := ns) (acc := []) (rs := rs) (x := sid)
    simp only [manyFrom, List.map_nil, List.not_mem_nil, false_or] at this
    simp only [participants, addressed, this]
    exact ⟨fun ⟨r, hr, hm⟩ => ⟨up _ hm, r, hr, hm⟩, fun hm => hm.2⟩

theorem Inv.participants_nodup {s : St} (h : Inv s) (ns : Ns) (t : Target) :
    ((participants s ns t).map Prod.fst).Nodup := by
  cases t with
  | all => exact h.roomMembers_nodup ns none
  | one r => exact h.roomMembers_nodup ns (some r)
  | many rs => exact nodup_manyFrom (s := s) (ns := ns) (acc := []) (rs := rs) (by simp)

theorem mem_fst_filter_skip {l : List (Sid × Eio)} {skip : List Sid} {sid : Sid} :
    sid ∈ (l.filter (fun p => !(skip.contains p.1))).map Prod.fst ↔
      sid ∈ l.map Prod.fst ∧ sid ∉ skip := by
  simp only [List.mem_map, List.mem_filter, Bool.not_eq_true', List.contains_eq_mem,
    decide_eq_false_iff_not]
  constructor
  · rintro ⟨p, ⟨hp, hs⟩, rfl⟩; exact ⟨⟨p, hp, rfl⟩, hs⟩
  · rintro ⟨⟨p, hp, rfl⟩, hs⟩; exact ⟨p, ⟨hp, hs⟩, rfl⟩

/-- the rooms an emit looks into -/
def Target.rooms : Target → List (Option Room)
  | .all => [none]
  | .one r => [some r]
  | .many rs => rs.map some

/-- a recipient is a member of one of the rooms the emit looks into (no invariant needed) -/
theorem mem_fst_recipients_imp {s : St} {ns : Ns} {t : Target} {skip : List Sid} {sid : Sid}
    (h : sid ∈ (recipients s ns t skip).map Prod.fst) :
    ∃ room ∈ t.rooms, isMember s ns room sid = true := by
  have h := (mem_fst_filter_skip.mp h).1
  cases t with
  | all => exact ⟨none, by simp [Target.rooms], mem_fst_roomMembers.mp h⟩
  | one r => exact ⟨some r, by simp [Target.rooms], mem_fst_roomMembers.mp h⟩
  | many rs =>
    obtain h | ⟨r, hr, hm⟩ := (mem_fst_manyFrom (acc := [])).mp h
    · cases h
    · exact ⟨some r, by simp [Target.rooms, hr], hm⟩

end Sio.Rooms
