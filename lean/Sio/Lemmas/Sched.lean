/-
  Lemmas for K5 (Sio/Model/Sched.lean) on top of the phase invariant: the invariant along atomic and
  gate-serial schedules, the frame of untargeted namespaces, quiescence, the gate record, and who
  called the handler with which reason.
-/
import Sio.Lemmas.SchedPhase
namespace Sio.Sched

/-- nobody has started (every task is at its first pc or already over), nothing pending, no
    handler call recorded, no refusal sent, nobody has passed a gate -/
structure Init (st : St) : Prop where
  pcs : ∀ t ∈ st.tasks, t.pc = .check ∨ t.pc = .chandler ∨ t.pc = .done
  pend : ∀ n, st.sh.pend n = 0
  calls : ∀ n, st.sh.calls n = []
  contained : st.sh.contained = 0
  refusals : ∀ n, st.sh.refusals n = 0
  marks : ∀ n, st.sh.marks n = []

theorem Init.pos_zero {st : St} (h : Init st) {t : Task} (ht : t ∈ st.tasks) : pos t.kind t.pc = 0 := by
  rcases h.pcs t ht with hp | hp | hp <;> rw [hp] <;> rfl

theorem init_inv (st : St) (h : Init st) : Inv st.sh.mem st ∧ noMark st := by
  have hp : ∀ t ∈ st.tasks, t.pc ≠ .raised ∧ t.pc ≠ .handler ∧ t.pc ≠ .mark := fun t ht => by
    rcases h.pcs t ht with e | e | e <;> simp [e]
  refine ⟨⟨fun t ht => (hp t ht).1, h.contained, fun t ht _ => (hp t ht).2.1, fun n => ?_⟩,
    fun t ht => (hp t ht).2.2⟩
  refine PhaseAt.congr (f := fun _ => 0) ?_ (cnt_eq_zero (fun _ => h.pos_zero) n)
  unfold PhaseAt
  rw [h.pend n, h.calls n, h.refusals n, h.marks n, phase_iff]
  cases st.sh.mem n
  · exact .never
  · exact .untouched (Nat.zero_le _)

theorem mkSt_init (tasks : List (Kind × List Ns)) (conn others : List Ns) :
    Init (mkSt tasks conn others) := by
  refine ⟨?_, fun _ => rfl, fun _ => rfl, rfl, fun _ => rfl, fun _ => rfl⟩
  intro t ht
  simp only [mkSt, List.mem_map] at ht
  obtain ⟨p, _, rfl⟩ := ht
  cases p.1 <;> simp [mkTask, startPc]

theorem Step.noMark {sh sh' : Shared} {t t' : Task} (h : Step true sh t t' sh')
    (hm : t.pc ≠ .mark) : t'.pc ≠ .mark := by
  cases h <;> simp_all

/-- the atomic gate never opens a window -/
theorem noMark_step {st : St} (i : Nat) (h : noMark st) : noMark (step true st i) :=
  step_induction (P := noMark) (fun _ i t _ _ hi hs h =>
    forall_mem_set h (hs.noMark (h t (List.mem_of_getElem? hi))) i) st i h

/-- **The invariant at every step, for either gate.**  Under the atomic gate no window ever opens;
    with threads admissibility of every step is the hypothesis. -/
theorem run_inv (a : Bool) (st0 : St) (h0 : Init st0) (sched : List Nat)
    (hadm : a = false → ∀ pre i, pre ++ [i] <+: sched → admissible (run a st0 pre) i = true) :
    ∀ pre, pre <+: sched → Inv st0.sh.mem (run a st0 pre) := by
  suffices ∀ pre, pre <+: sched →
      Inv st0.sh.mem (run a st0 pre) ∧ (a = true → noMark (run a st0 pre)) from
    fun pre hp => (this pre hp).1
  intro pre
  induction pre using snoc_induction with
  | h0 => exact fun _ => (init_inv st0 h0).imp_right fun h _ => h
  | hs s i ih =>
    intro hp
    obtain ⟨hI, hm⟩ := ih ((List.prefix_append s [i]).trans hp)
    rw [run_snoc]
    refine ⟨step_inv a i hI (fun ha => hadm ha s i hp) hm, ?_⟩
    rintro rfl
    exact noMark_step i (hm rfl)

theorem gateSerial_admissible {st : St} {sched : List Nat} (h : gateSerial st sched = true)
    (pre : List Nat) (i : Nat) (hp : pre ++ [i] <+: sched) :
    admissible (run false st pre) i = true := by
  induction sched generalizing st pre with
  | nil => simp at hp
  | cons j r ih =>
    simp only [gateSerial, Bool.and_eq_true] at h
    cases pre with
    | nil => exact (List.cons_prefix_cons.mp hp).1 ▸ h.1
    | cons j' pre =>
      obtain ⟨rfl, hr⟩ := List.cons_prefix_cons.mp hp
      exact ih h.2 pre hr

/-- task `t` may still act on namespace `n` -/
def touches (n : Ns) (t : Task) : Bool :=
  match t.pc with
  | .csend | .done | .raised => false
  | .chandler => t.kind == .refuse && t.todo.contains n
  | _ => t.todo.contains n

def targeted (st : St) (n : Ns) : Bool := st.tasks.any (touches n)

theorem touches_pc (n : Ns) (k : Kind) (todo : List Ns) (p : Pc) :
    touches n ⟨k, todo, p⟩ = match p with
      | .csend | .done | .raised => false
      | .chandler => k == .refuse && todo.contains n
      | _ => todo.contains n := rfl

theorem touches_chNext (n : Ns) (k : Kind) (todo : List Ns) :
    touches n ⟨k, todo, chNext k⟩ = (k == .refuse && todo.contains n) := by cases k <;> rfl

theorem touches_afterMark (n : Ns) (k : Kind) (todo : List Ns) :
    touches n ⟨k, todo, afterMark k⟩ = todo.contains n := by cases k <;> rfl

theorem touches_advance (n : Ns) (t : Task) (rest : List Ns) :
    touches n (advance t rest) = rest.contains n := by
  unfold advance touches
  cases rest <;> simp

-- Where the pc of a task is not a constructor these go before `touches_pc`, whose `match` would be
-- stuck.
attribute [local simp high] touches_chNext touches_afterMark touches_advance

theorem Step.frame {a : Bool} {sh sh' : Shared} {t t' : Task} (h : Step a sh t t' sh') (n : Ns)
    (ht : touches n t = false) : SameAt sh' sh n ∧ touches n t' = false := by
  cases h with
  | gate _ _ _ _ hg | gateSwallowed _ _ _ hg | gateRaised _ _ _ _ hg =>
    rcases hg with rfl | ⟨rfl, -, -⟩ <;> simp_all [touches_pc, SameAt, marked, upd]
  | _ => simp_all [touches_pc, SameAt, upd]

theorem targeted_false {st : St} {n : Ns} :
    targeted st n = false ↔ ∀ u ∈ st.tasks, touches n u = false := by
  simp [targeted]

theorem run_frame (a : Bool) (sched : List Nat) (st : St) (n : Ns) (h : targeted st n = false) :
    SameAt (run a st sched).sh st.sh n :=
  (run_induction (P := fun s => SameAt s.sh st.sh n ∧ targeted s n = false)
    (step_induction fun _ i t _ _ hi hs ⟨h1, h2⟩ =>
      have hall := targeted_false.mp h2
      have ⟨g1, g2⟩ := hs.frame n (hall t (List.mem_of_getElem? hi))
      ⟨g1.trans h1, targeted_false.mpr (forall_mem_set hall g2 i)⟩) sched st ⟨.refl _ _, h⟩).1

theorem run_marks (a : Bool) (sched : List Nat) (st : St) (n : Ns) :
    ∃ l, (run a st sched).sh.marks n = l ++ st.sh.marks n :=
  run_induction (P := fun s => ∃ l, s.sh.marks n = l ++ st.sh.marks n)
    (step_induction fun _ _ t _ _ _ hs ⟨l, h⟩ => (hs.marks n).elim (fun e => ⟨l, e.trans h⟩)
      fun e => ⟨t.kind :: l, e.2.trans (congrArg _ h)⟩) sched st ⟨[], rfl⟩

/-- some refusing CONNECT (a task of kind `refuse`) has namespace `n` on its list -/
def refuseTargets (st : St) (n : Ns) : Bool :=
  st.tasks.any (fun t => t.kind == .refuse && t.todo.contains n)

theorem refuseTargets_false {st : St} {n : Ns} :
    refuseTargets st n = false ↔ ∀ u ∈ st.tasks, ¬ (u.kind = .refuse ∧ n ∈ u.todo) := by
  simp [refuseTargets]

/-- kinds and lists are fixed, so a namespace no refusing CONNECT targets never gets a refusal on its
    gate record -/
theorem run_refuseTargets (a : Bool) (sched : List Nat) (st : St) (n : Ns)
    (h : refuseTargets st n = false) :
    nref ((run a st sched).sh.marks n) = nref (st.sh.marks n) :=
  (run_induction (P := fun s => refuseTargets s n = false ∧
      nref (s.sh.marks n) = nref (st.sh.marks n))
    (step_induction fun s i t t' sh' hi hs ⟨h1, h2⟩ => by
      have hall := refuseTargets_false.mp h1
      have ht := hall t (List.mem_of_getElem? hi)
      refine ⟨refuseTargets_false.mpr
        (forall_mem_set hall (fun hx => ht ⟨hs.kind ▸ hx.1, hs.mem_todo hx.2⟩) i), ?_⟩
      rcases hs.marks n with hm | ⟨hh, hm⟩ <;> simp only [hm, h2]
      have hk : t.kind ≠ .refuse := fun hx => ht ⟨hx, List.mem_of_mem_head? hh⟩
      simpa [nref, hk] using h2) sched st ⟨h, rfl⟩).2

/-- While nobody has passed the gate of `n` and the sid is connected to it, a step does not change
    whether its task may still act on `n`: a `check` of `n` succeeds, and a task whose current
    namespace is `n` is not at `cleanup` (`hcl`, from the invariant). -/
theorem Step.touches_eq {a : Bool} {sh sh' : Shared} {t t' : Task} (h : Step a sh t t' sh') (n : Ns)
    (hc : connected sh n = true) (hm : sh'.marks n = []) (hr : t'.pc ≠ .raised)
    (hcl : t.pc = .cleanup → some n ≠ t.todo.head?) : touches n t' = touches n t := by
  cases h with
  | gateRaised => exact absurd rfl hr
  | cleanup _ m | cleanupGone _ m => have := hcl rfl; simp_all [touches_pc]
  | checkFail _ m _ hf =>
    have : n ≠ m := by rintro rfl; simp [hc] at hf
    simp_all [touches_pc]
  | gate _ m _ _ hg | gateSwallowed m _ _ hg =>
    -- a passage of the gate of `n` would be on its record
    have : n ≠ m := by rintro rfl; simp [marked] at hm
    rcases hg with rfl | ⟨rfl, -, -⟩ <;> simp_all [touches_pc]
  | _ => simp [touches_pc]

/-- along a run that keeps the invariant and ends with an empty gate record of a namespace `n` the sid
    was connected to, the tasks that may act on `n` stay the same in number: the gate record only
    grows, so it was empty all along, and then `n` was in the untouched phase all along -/
theorem run_touches {a : Bool} {st0 : St} {sched : List Nat} {n : Ns}
    (hI : ∀ pre, pre <+: sched → Inv st0.sh.mem (run a st0 pre)) (hm0 : st0.sh.mem n = true)
    (hm : (run a st0 sched).sh.marks n = []) :
    (run a st0 sched).tasks.countP (touches n) = st0.tasks.countP (touches n) := by
  have nil : ∀ pre, pre <+: sched → (run a st0 pre).sh.marks n = [] := fun pre ⟨r, e⟩ => by
    obtain ⟨l, hl⟩ := run_marks a r (run a st0 pre) n
    rw [← run_append, e, hm] at hl
    exact (List.append_eq_nil_iff.mp hl.symm).2
  suffices ∀ pre, pre <+: sched →
      (run a st0 pre).tasks.countP (touches n) = st0.tasks.countP (touches n) from
    this _ (List.prefix_refl _)
  intro pre
  induction pre using snoc_induction with
  | h0 => exact fun _ => rfl
  | hs s i ih =>
    intro hp
    have hps := (List.prefix_append s [i]).trans hp
    have hr := (hI _ hp).noRaise
    have hm' := nil _ hp
    have hph := (hI s hps).phase n
    rw [nil s hps, hm0] at hph
    obtain ⟨e1, e2, e3, e4⟩ := (phase_iff.mp hph).fresh
    rw [← ih hps]
    rw [run_snoc] at hr hm' ⊢
    rcases step_spec a (run a st0 s) i with e | ⟨t, t', sh', hi, hs, e⟩ <;> rw [e] at hr hm' ⊢
    refine countP_set_of_eq _ _ hi (hs.touches_eq n (by simp [connected, e1, e2]) hm'
      (hr t' (List.mem_set (List.getElem?_eq_some_iff.mp hi).1 _)) fun hpc hh => ?_)
    have := cnt_pos (List.mem_of_getElem? hi) n
    rw [cls_eq, if_pos hh.symm, hpc, pos] at this
    split at this <;> omega

theorem inv_calls_le {m0 : Ns → Bool} {st : St} (hI : Inv m0 st) (n : Ns) : ncalls st n ≤ 1 :=
  (phase_gate (hI.phase n)).2.2.2.1

theorem inv_anyRaised {m0 : Ns → Bool} {st : St} (hI : Inv m0 st) : anyRaised st = false := by
  simpa [anyRaised] using hI.noRaise

theorem marks_refuse {l : List Kind} (h1 : l.length = 1) (h2 : nref l = 1) : l = [.refuse] := by
  match l, h1 with
  | [k], _ => cases k <;> simp_all [nref]

theorem marks_single {l : List Kind} {k : Kind} (h : l.length ≤ 1) (hm : k ∈ l) : l = [k] := by
  match l, h, hm with
  | [x], _, hx => simp at hx; rw [hx]

theorem marks_cause {l : List Kind} (h1 : l.length = 1) (h2 : nref l = 0) :
    ∃ k, k ≠ .refuse ∧ l = [k] := by
  match l, h1 with
  | [k], _ => exact ⟨k, by cases k <;> simp_all [nref], rfl⟩

/-- task `t` is a refusing CONNECT that has passed the gate of `n` (marked the session as going
    away) and has not yet finished its cleanup -/
def refusedPast (n : Ns) (t : Task) : Bool :=
  t.kind == .refuse && t.todo.head? == some n && (t.pc == .send || t.pc == .cleanup)

theorem refusedPast_cls (n : Ns) (t : Task) (h : refusedPast n t = true) :
    cls n t = 4 ∨ cls n t = 5 := by
  simp only [refusedPast, Bool.and_eq_true, Bool.or_eq_true, beq_iff_eq] at h
  obtain ⟨⟨hk, hm⟩, hp⟩ := h
  rcases hp with hp | hp <;> simp [cls_eq, hk, hm, hp, pos]

/-- a refusal recorded at the gate excludes handler calls for ever -/
theorem inv_refused {m0 : Ns → Bool} {st : St} (hI : Inv m0 st) (n : Ns)
    (h : .refuse ∈ st.sh.marks n) : st.sh.calls n = [] ∧ st.sh.marks n = [.refuse] :=
  have hg := phase_gate (hI.phase n)
  ⟨List.eq_nil_of_length_eq_zero (hg.2.2.2.2.1 (List.count_pos_iff.mpr h)), marks_single hg.1 h⟩

theorem allDone_finished {st : St} (h : allDone st = true) {t : Task} (ht : t ∈ st.tasks) :
    t.pc = .done ∨ t.pc = .raised := by
  simpa [allDone, finished] using List.all_eq_true.mp h t ht

/-- at quiescence a namespace the sid was connected to and that some task targeted at the start has
    ended — no membership, not pending — in exactly one of two ways: a terminating cause won the
    gate and the handler ran once (no refusal was sent), or a refusing CONNECT won it, the refusal
    was sent once and the handler never ran; the latter needs a refusing CONNECT with `n` on its
    list -/
theorem quiescent_ended {a : Bool} {st0 : St} (h0 : Init st0) {sched : List Nat}
    (hI : ∀ pre, pre <+: sched → Inv st0.sh.mem (run a st0 pre))
    (hd : allDone (run a st0 sched) = true) (n : Ns) (hm : st0.sh.mem n = true)
    (ht : targeted st0 n = true) :
    residue (run a st0 sched) n = false ∧
    ((ncalls (run a st0 sched) n = 1 ∧ (run a st0 sched).sh.refusals n = 0 ∧
        ∃ k, k ≠ Kind.refuse ∧ (run a st0 sched).sh.marks n = [k]) ∨
     (ncalls (run a st0 sched) n = 0 ∧ (run a st0 sched).sh.refusals n = 1 ∧
        (run a st0 sched).sh.marks n = [Kind.refuse])) ∧
    (refuseTargets st0 n = false → ncalls (run a st0 sched) n = 1) := by
  have hph := ((hI sched (List.prefix_refl _)).phaseAt n).congr (g := fun _ => 0) fun k hk =>
    (cnt_eq_zero (fun t ht => by rcases allDone_finished hd ht with e | e <;> rw [e] <;> rfl)
      n k hk).symm
  rw [hm] at hph
  obtain ⟨hp, hmem | ⟨hmem, h⟩⟩ := (phase_iff.mp hph).quiescent
  · -- nobody passed the gate: then a task that targeted `n` still does
    have := run_touches hI hm (List.eq_nil_of_length_eq_zero hmem.2)
    rw [List.countP_eq_zero.mpr fun t ht => by
      rcases allDone_finished hd ht with e | e <;> simp [touches, e]] at this
    have := List.countP_pos_iff.mpr (List.any_eq_true.mp ht)
    omega
  · refine ⟨by simp [residue, hmem, hp], h.imp (fun ⟨qa, qb, qc, qd⟩ => ⟨qa, qb, marks_cause qc qd⟩)
      fun ⟨qa, qb, qc, qd⟩ => ⟨qa, qb, marks_refuse qc qd⟩, fun hrt => ?_⟩
    rcases h with ⟨qa, -⟩ | ⟨-, -, -, qd⟩
    · exact qa
    · rw [run_refuseTargets a sched st0 n hrt, h0.marks n] at qd; cases qd

/-- a namespace the sid was not connected to: no handler call, no trace -/
theorem inv_never {m0 : Ns → Bool} {st : St} (hI : Inv m0 st) (n : Ns) (hm : m0 n = false) :
    ncalls st n = 0 ∧ residue st n = false := by
  obtain ⟨e1, e2, e3⟩ := (hm ▸ phase_iff.mp (hI.phase n)).of_never
  exact ⟨e3, by simp [residue, e1, e2]⟩

/-- namespaces no task targets are unaffected -/
theorem untargeted (a : Bool) {st0 : St} (h0 : Init st0) (sched : List Nat) {n : Ns}
    (ht : targeted st0 n = false) :
    (run a st0 sched).sh.mem n = st0.sh.mem n ∧ ncalls (run a st0 sched) n = 0 ∧
    (run a st0 sched).sh.pend n = 0 ∧ (run a st0 sched).sh.refusals n = 0 ∧
    (run a st0 sched).sh.marks n = [] := by
  obtain ⟨f1, f2, f3, f4, f5⟩ := run_frame a sched st0 n ht
  exact ⟨f1, by simp [ncalls, f3, h0.calls n], by rw [f2, h0.pend n], by rw [f4, h0.refusals n],
    by rw [f5, h0.marks n]⟩

/-- the gate, from the invariant along the schedule: at most one task ever passes the gate of a
    namespace; every handler call belongs to a passing task that is not a refusal; a refusal is sent
    only by a refusing CONNECT that passed; once a refusing CONNECT has passed, no handler call -/
theorem gate_facts {m0 : Ns → Bool} {st : St} (hI : Inv m0 st) (n : Ns) :
    (st.sh.marks n).length ≤ 1
    ∧ ncalls st n + nref (st.sh.marks n) ≤ (st.sh.marks n).length
    ∧ st.sh.refusals n ≤ nref (st.sh.marks n)
    ∧ (Kind.refuse ∈ st.sh.marks n → st.sh.calls n = [] ∧ st.sh.marks n = [Kind.refuse]) := by
  have hg := phase_gate (hI.phase n)
  exact ⟨hg.1, hg.2.1, hg.2.2.1, inv_refused hI n⟩

/-- **A refused connection is never reported as ended**, for either gate: once a refusing CONNECT
    has passed the gate of `n` (after `s1`), no continuation `s2` that keeps the invariant adds a
    handler call for `n`.  A refusing CONNECT past the gate is counted in class 4 or 5, which fixes
    `nref = 1`; the gate record only grows. -/
theorem refused_never_notified {a : Bool} {st0 : St} {s1 s2 : List Nat} {n : Ns}
    (hI1 : Inv st0.sh.mem (run a st0 s1)) (hI : Inv st0.sh.mem (run a st0 (s1 ++ s2)))
    (h : (run a st0 s1).tasks.any (refusedPast n) = true ∨
         Kind.refuse ∈ (run a st0 s1).sh.marks n) :
    (run a st0 (s1 ++ s2)).sh.calls n = [] ∧
    (run a st0 (s1 ++ s2)).sh.marks n = [Kind.refuse] := by
  apply inv_refused hI n
  obtain ⟨l, hl⟩ := run_marks a s2 (run a st0 s1) n
  rw [run_append, hl]
  refine List.mem_append_right l (h.elim (fun h => ?_) id)
  obtain ⟨t, ht, hp⟩ := List.any_eq_true.mp h
  have hpos := cnt_pos ht n
  have hg := (phase_gate (hI1.phase n)).2.2.2.2.2
  refine List.count_pos_iff.mp (?_ : 0 < nref _)
  rcases refusedPast_cls n t hp with hc | hc <;> rw [hc] at hpos <;> omega

/-- task `t` has passed the gate of `n` and is still working on `n` (position classes 2…5) -/
def past (n : Ns) (t : Task) : Bool := decide (2 ≤ cls n t)

/-- the step of task `i` in state `st` executes `pre_disconnect(sid, n)`: task `i` has kind `k`, its
    current namespace is `n`, and the step pushes `k` on the gate record of `n` -/
def marksAt (a : Bool) (st : St) (i : Nat) (n : Ns) (k : Kind) : Prop :=
  ∃ t, st.tasks[i]? = some t ∧ t.kind = k ∧ t.todo.head? = some n ∧
    (step a st i).sh.marks n = k :: st.sh.marks n

/-- the step of task `i` in state `st` invokes the application's disconnect handler for `n` with
    reason `k` = the kind of task `i` -/
def callsAt (a : Bool) (st : St) (i : Nat) (n : Ns) (k : Kind) : Prop :=
  ∃ t, st.tasks[i]? = some t ∧ t.kind = k ∧ t.todo.head? = some n ∧
    (step a st i).sh.calls n = k :: st.sh.calls n

/-- along `sched`, some step was task `i` (of kind `k`) passing the gate of `n` -/
def passedGate (a : Bool) (st0 : St) (sched : List Nat) (i : Nat) (n : Ns) (k : Kind) : Prop :=
  ∃ pre, pre ++ [i] <+: sched ∧ marksAt a (run a st0 pre) i n k

/-- along `sched`, some step was task `i` (of kind `k`) invoking the handler of `n`, and the same
    task had passed the gate of `n` before that step -/
def ranHandler (a : Bool) (st0 : St) (sched : List Nat) (i : Nat) (n : Ns) (k : Kind) : Prop :=
  ∃ pre, pre ++ [i] <+: sched ∧ callsAt a (run a st0 pre) i n k ∧ passedGate a st0 pre i n k

theorem passedGate_mono {a : Bool} {st0 : St} {s s' : List Nat} {i : Nat} {n : Ns} {k : Kind}
    (hp : s <+: s') (h : passedGate a st0 s i n k) : passedGate a st0 s' i n k := by
  obtain ⟨pre, h1, h2⟩ := h
  exact ⟨pre, h1.trans hp, h2⟩

/-- a step puts its task past the gate of `n` only by executing `pre_disconnect(sid, n)` -/
theorem Step.past_cases {a : Bool} {sh sh' : Shared} {t t' : Task} (h : Step a sh t t' sh') (n : Ns)
    (hp : past n t' = true) :
    past n t = true ∨
    (t.todo.head? = some n ∧ sh'.marks n = t.kind :: sh.marks n) := by
  by_cases hn : t.todo.head? = some n
  · cases h with
    | gate | gateSwallowed | gateRaised => simp_all [marked]
    | _ => simp_all [past, cls_mk, pos]
  · simp [past, h.cls_off hn] at hp

/-- kinds never change and `todo` only shrinks: task `i` of any reachable state is task `i` of the
    initial state further along -/
theorem run_kind_todo (a : Bool) (st0 : St) (sched : List Nat) (i : Nat) (t : Task)
    (h : (run a st0 sched).tasks[i]? = some t) :
    ∃ t0, st0.tasks[i]? = some t0 ∧ t0.kind = t.kind ∧ ∀ n, n ∈ t.todo → n ∈ t0.todo :=
  run_induction (P := fun s => ∀ i t, s.tasks[i]? = some t →
      ∃ t0, st0.tasks[i]? = some t0 ∧ t0.kind = t.kind ∧ ∀ n, n ∈ t.todo → n ∈ t0.todo)
    (step_induction fun _ j u _ _ hu hs ih i t h => by
      rcases getElem?_set_cases h with h | ⟨rfl, rfl⟩
      · exact ih i t h
      · obtain ⟨t0, g1, g2, g3⟩ := ih i u hu
        exact ⟨t0, g1, g2.trans hs.kind.symm, fun n hn => g3 n (hs.mem_todo hn)⟩)
    sched st0 (fun i t h => ⟨t, h, rfl, fun _ hn => hn⟩) i t h

/-- **Who called, who passed.**  From an initial state, along ANY schedule (atomic gate or not,
    gate-serial or not):
    every task that is past the gate of `n` got there by its own `pre_disconnect(sid, n)` step, and
    every recorded handler call for `n` with reason `k` was made by a step of a task of kind `k` that
    had passed the gate of `n` before. -/
theorem trace_facts (a : Bool) (st0 : St) (h0 : Init st0) (n : Ns) (sched : List Nat) :
    (∀ (i : Nat) (t : Task), (run a st0 sched).tasks[i]? = some t → past n t = true →
        passedGate a st0 sched i n t.kind) ∧
    (∀ k, k ∈ (run a st0 sched).sh.calls n → ∃ i, ranHandler a st0 sched i n k) := by
  induction sched using snoc_induction with
  | h0 =>
    constructor
    · intro i t h hp
      simp [past, cls_of_pos (h0.pos_zero (List.mem_of_getElem? h))] at hp
    · intro k (hk : k ∈ st0.sh.calls n); rw [h0.calls n] at hk; cases hk
  | hs s j ih =>
    obtain ⟨ihA, ihB⟩ := ih
    have hpre : s <+: s ++ [j] := List.prefix_append s [j]
    have monoB : ∀ k, k ∈ (run a st0 s).sh.calls n → ∃ i, ranHandler a st0 (s ++ [j]) i n k :=
      fun k hk => let ⟨i, pre, h1, h2⟩ := ihB k hk; ⟨i, pre, h1.trans hpre, h2⟩
    rw [run_snoc]
    rcases step_spec a (run a st0 s) j with e | ⟨u, u', sh', hu, hs, e⟩ <;> rw [e]
    · exact ⟨fun i t h hp => passedGate_mono hpre (ihA i t h hp), monoB⟩
    · constructor
      · intro i t h hp
        rcases getElem?_set_cases h with h | ⟨rfl, rfl⟩
        · exact passedGate_mono hpre (ihA i t h hp)
        · rw [hs.kind]
          rcases hs.past_cases n hp with hpu | ⟨hh, hm⟩
          · exact passedGate_mono hpre (ihA i u hu hpu)
          · exact ⟨s, List.prefix_refl _, u, hu, rfl, hh, e ▸ hm⟩
      · rcases hs.calls n with hx | ⟨hh, hpc, hx⟩ <;> simp only [hx]
        · exact monoB
        · have hpu : past n u = true := by simp [past, cls_eq, hh, hpc, pos]
          exact List.forall_mem_cons.mpr ⟨⟨j, s, List.prefix_refl _, ⟨u, hu, rfl, hh, e ▸ hx⟩,
            ihA j u hu hpu⟩, monoB⟩

/-- every reason recorded for `n` names a task of the initial state that has `n` on its list, passed
    the gate of `n` and then made the call — along any schedule, with or without an atomic gate -/
theorem reason_provenance {a : Bool} {st0 : St} (h0 : Init st0) {sched : List Nat} {n : Ns}
    {k : Kind} (hk : k ∈ (run a st0 sched).sh.calls n) :
    k ∈ (run a st0 sched).sh.marks n ∧
    ∃ i t0, st0.tasks[i]? = some t0 ∧ t0.kind = k ∧ n ∈ t0.todo ∧
      passedGate a st0 sched i n k ∧ ranHandler a st0 sched i n k := by
  obtain ⟨i, pre, hpre, hca, hpg⟩ := (trace_facts a st0 h0 n sched).2 k hk
  have hpg' := passedGate_mono ((List.prefix_append pre [i]).trans hpre) hpg
  have ⟨pre', ⟨rest, hrest⟩, t, ht, hkt, hh, hm⟩ := hpg'
  obtain ⟨t0, g1, g2, g3⟩ := run_kind_todo a st0 pre' i t ht
  refine ⟨?_, i, t0, g1, g2.trans hkt, g3 n (List.mem_of_mem_head? hh), hpg', pre, hpre, hca, hpg⟩
  -- the passage stays on the gate record
  obtain ⟨l, hl⟩ := run_marks a rest (run a st0 (pre' ++ [i])) n
  rw [← hrest, run_append, hl, run_snoc, hm]
  simp

/-- `h` is the conclusion of `Row.calls_shape` with `c`, `m` the lists whose lengths the row counts
    and `x` the number of tasks between `pre_disconnect` and `_trigger_event` (`cnt st n 2`) -/
theorem calls_filter_aux (c m : List Kind) (x : Nat)
    (hk : ∀ k ∈ c, k ≠ Kind.refuse ∧ c = [k] ∧ m = [k])
    (h : (c.length = 0 ∧ (x ≠ 0 ∨ m.length = 0 ∨ (m.length = 1 ∧ nref m = 1))) ∨
         (c.length = 1 ∧ x = 0)) :
    c = if x = 0 then m.filter (· != Kind.refuse) else [] := by
  rcases h with ⟨hc, h⟩ | ⟨hc, hx⟩
  · obtain rfl := List.eq_nil_of_length_eq_zero hc
    rcases h with h | h | ⟨h1, h2⟩
    · rw [if_neg h]
    · simp [List.eq_nil_of_length_eq_zero h]
    · simp [marks_refuse h1 h2]
  · match c, hc with
    | [k], _ =>
      obtain ⟨hne, -, hm⟩ := hk k (by simp)
      rw [hm, if_pos hx]; simp [hne]

/-- **The handler calls follow the gate record**: `calls n` is `marks n` without refusals as soon as
    no passing task is still between its `pre_disconnect` and its `_trigger_event`
    (`cnt st n 2 = 0`), empty before; every recorded reason is not a refusal, is the only call and
    the only gate passage — so `calls n` is empty or equal to `marks n`, a sublist of it. -/
def CallsFollowMarks (st : St) (n : Ns) : Prop :=
  (st.sh.calls n =
      if cnt st n 2 = 0 then (st.sh.marks n).filter (· != Kind.refuse) else [])
  ∧ (∀ k, k ∈ st.sh.calls n →
      k ≠ Kind.refuse ∧ st.sh.calls n = [k] ∧ st.sh.marks n = [k])

theorem calls_follow {a : Bool} {st0 : St} (h0 : Init st0) {sched : List Nat}
    (hI : Inv st0.sh.mem (run a st0 sched)) (n : Ns) : CallsFollowMarks (run a st0 sched) n := by
  have hsub := fun k (hk : k ∈ (run a st0 sched).sh.calls n) => (reason_provenance h0 hk).1
  generalize run a st0 sched = st at hI hsub
  have hg := gate_facts hI n
  have h2 : ∀ k ∈ st.sh.calls n, k ≠ .refuse ∧ st.sh.calls n = [k] ∧ st.sh.marks n = [k] :=
    fun k hk => ⟨(by rintro rfl; rw [(hg.2.2.2 (hsub _ hk)).1] at hk; cases hk),
      marks_single (inv_calls_le hI n) hk, marks_single hg.1 (hsub k hk)⟩
  exact ⟨calls_filter_aux _ _ _ h2 (phase_iff.mp (hI.phase n)).calls_shape, h2⟩

/-- a refusing CONNECT is never at the handler pc; a CONNECT being accepted only goes
    chandler → csend → done -/
def quietT (t : Task) : Prop :=
  (t.kind = .refuse → t.pc ≠ .handler) ∧
  (t.kind = .conn → t.pc = .chandler ∨ t.pc = .csend ∨ t.pc = .done)

def Quiet (st : St) : Prop := ∀ t ∈ st.tasks, quietT t

theorem Step.quiet {a : Bool} {sh sh' : Shared} {t t' : Task} (h : Step a sh t t' sh')
    (hq : quietT t) : quietT t' := by
  cases h with
  | gate _ _ _ _ hg | gateSwallowed _ _ _ hg | gateRaised _ _ _ _ hg =>
    rcases hg with rfl | ⟨rfl, -, -⟩ <;> simp_all [quietT, afterMark]
  | chandler k => cases k <;> simp_all [quietT, chNext]
  | _ => simp_all [quietT]

/-- CONNECTs being accepted have not run their connect handler yet (true of every `mkSt` state) -/
def connAtStart (st : St) : Prop := ∀ t ∈ st.tasks, t.kind = .conn → t.pc = .chandler

theorem mkSt_connAtStart (tasks : List (Kind × List Ns)) (conn others : List Ns) :
    connAtStart (mkSt tasks conn others) := by
  intro t ht hk
  simp only [mkSt, List.mem_map] at ht
  obtain ⟨p, _, rfl⟩ := ht
  simp only [mkTask] at hk ⊢
  rw [hk]; rfl

/-- for either gate and ANY schedule: when the CONNECTs being accepted have not yet run their connect
    handler at the start, every reason is that of a terminating cause -/
theorem reason_kind {a : Bool} {st0 : St} (h0 : Init st0) (hc : connAtStart st0) {sched : List Nat}
    {n : Ns} {k : Kind} (hk : k ∈ (run a st0 sched).sh.calls n) :
    k = .api ∨ k = .clientDisc ∨ k = .lost := by
  -- tasks stay quiet along the run, and a call is recorded by a task at the handler pc
  refine (run_induction (P := fun s => Quiet s ∧
      ∀ k ∈ s.sh.calls n, k = .api ∨ k = .clientDisc ∨ k = .lost)
    (step_induction fun _ i t _ _ hi hs ⟨hq, hk⟩ => ?_) sched st0 ⟨fun t ht =>
      ⟨fun _ => by rcases h0.pcs t ht with e | e | e <;> simp [e], fun hk => .inl (hc t ht hk)⟩,
      by simp [h0.calls n]⟩).2 k hk
  have ht := hq t (List.mem_of_getElem? hi)
  refine ⟨forall_mem_set hq (hs.quiet ht) i, ?_⟩
  rcases hs.calls n with e | ⟨-, hp, e⟩ <;> simp only [e]
  · exact hk
  · refine List.forall_mem_cons.mpr ⟨?_, hk⟩
    obtain ⟨q1, q2⟩ := ht
    cases hk : t.kind <;> simp_all

/-- **The reason names a cause in progress**, for either gate, at any state of a run that satisfies
    the invariant: a recorded reason `k` is not a refusal and is the kind of a task of the initial
    state with `n` on its list that passed the gate of `n` and then made the call. -/
theorem reason_cause {a : Bool} {st0 : St} (h0 : Init st0) {sched : List Nat}
    (hI : Inv st0.sh.mem (run a st0 sched)) {n : Ns} {k : Kind}
    (hk : k ∈ (run a st0 sched).sh.calls n) :
    k ≠ Kind.refuse ∧ targeted st0 n = true ∧
    ∃ i t0, st0.tasks[i]? = some t0 ∧ t0.kind = k ∧ n ∈ t0.todo ∧
      passedGate a st0 sched i n k ∧ ranHandler a st0 sched i n k := by
  refine ⟨((calls_follow h0 hI n).2 k hk).1, Bool.of_not_eq_false fun ht => ?_,
    (reason_provenance h0 hk).2⟩
  rw [List.eq_nil_of_length_eq_zero (untargeted a h0 sched ht).2.1] at hk; cases hk

end Sio.Sched
