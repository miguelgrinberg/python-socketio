/-
  K4 — user sessions (property C16): `sessGet` / `sessSet` algebra, which inputs touch sessions.
-/
import Sio.Lemmas.ServerLost
import Sio.Lemmas.ServerBound
namespace Sio.Server
open Sio.Rooms

theorem sessGet_sessSet_same (s : Srv) (t : Eio) (ns : Ns) (v : J) :
    sessGet (sessSet s t ns v) t ns = some v := by
  unfold sessSet
  split
  · rename_i h
    unfold sessGet
    simp only
    have : ∀ l : List (Eio × Ns × J), l.any (fun e => e.1 = t ∧ e.2.1 = ns) = true →
        (l.map (fun e => if e.1 = t ∧ e.2.1 = ns then (t, ns, v) else e)).find?
          (fun e => e.1 = t ∧ e.2.1 = ns) = some (t, ns, v) := by
      intro l
      induction l with
      | nil => intro h; simp at h
      | cons a l ih =>
        intro h
        simp only [List.map_cons, List.find?_cons]
        by_cases ha : a.1 = t ∧ a.2.1 = ns
        · simp [ha]
        · simp only [ha, if_false, decide_false]
          simp only [List.any_cons, ha, decide_false, Bool.false_or] at h
          exact ih h
    rw [this _ h]; rfl
  · rename_i h
    unfold sessGet
    simp only
    rw [List.find?_append]
    have : s.sess.find? (fun e => e.1 = t ∧ e.2.1 = ns) = none := by
      rw [List.find?_eq_none]
      intro e he hc
      exact h (List.any_eq_true.mpr ⟨e, he, hc⟩)
    rw [this]; simp

theorem find_map_other (l : List (Eio × Ns × J)) {t t' : Eio} {ns ns' : Ns} (v : J)
    (hne : ¬ (t' = t ∧ ns' = ns)) :
    (l.map (fun e => if e.1 = t ∧ e.2.1 = ns then (t, ns, v) else e)).find?
        (fun e => e.1 = t' ∧ e.2.1 = ns') =
      l.find? (fun e => e.1 = t' ∧ e.2.1 = ns') := by
  have h2 : ¬ (t = t' ∧ ns = ns') := fun ⟨a, b⟩ => hne ⟨a.symm, b.symm⟩
  induction l with
  | nil => rfl
  | cons a l ih =>
    rw [List.map_cons, List.find?_cons, List.find?_cons, ih]
    by_cases ha : a.1 = t ∧ a.2.1 = ns
    · have h1 : ¬ (a.1 = t' ∧ a.2.1 = ns') := by
        rintro ⟨h1, h3⟩
        exact hne ⟨h1.symm.trans ha.1, h3.symm.trans ha.2⟩
      rw [if_pos ha]
      have e1 : decide ((t, ns, v).1 = t' ∧ (t, ns, v).2.1 = ns') = false := decide_eq_false h2
      have e2 : decide (a.1 = t' ∧ a.2.1 = ns') = false := decide_eq_false h1
      rw [e1, e2]
    · rw [if_neg ha]

theorem sessGet_sessSet_other (s : Srv) {t t' : Eio} {ns ns' : Ns} (v : J)
    (hne : ¬ (t' = t ∧ ns' = ns)) : sessGet (sessSet s t ns v) t' ns' = sessGet s t' ns' := by
  unfold sessSet
  split
  · unfold sessGet
    simp only
    rw [find_map_other _ v hne]
  · unfold sessGet
    simp only
    rw [List.find?_append]
    have h2 : ¬ (t = t' ∧ ns = ns') := fun ⟨a, b⟩ => hne ⟨a.symm, b.symm⟩
    cases hf : s.sess.find? (fun e => e.1 = t' ∧ e.2.1 = ns') with
    | none => simp [h2]
    | some x => simp

theorem sessSet_sessSet (s : Srv) (t : Eio) (ns : Ns) (v w : J)
    (h : sessGet s t ns = none) :
    sessSet (sessSet s t ns v) t ns w = sessSet s t ns w := by
  have hno : ∀ e ∈ s.sess, ¬ (e.1 = t ∧ e.2.1 = ns) := by
    intro e he hp
    unfold sessGet at h
    simp only [Option.map_eq_none_iff] at h
    have := List.find?_eq_none.mp h e he
    simp [hp.1, hp.2] at this
  have hnone : s.sess.any (fun e => e.1 = t ∧ e.2.1 = ns) = false := by
    rw [Bool.eq_false_iff]
    intro hc
    obtain ⟨e, he, hp⟩ := List.any_eq_true.mp hc
    exact hno e he (by simpa using hp)
  have hid : s.sess.map (fun e => if e.1 = t ∧ e.2.1 = ns then (t, ns, w) else e) = s.sess := by
    rw [List.map_congr_left (g := id)]
    · simp
    · intro e he
      simp [hno e he]
  have h1 : ∀ x, sessSet s t ns x = { s with sess := s.sess ++ [(t, ns, x)] } := by
    intro x; unfold sessSet; rw [hnone]; rfl
  rw [h1, h1]
  unfold sessSet
  have hany : (s.sess ++ [(t, ns, v)]).any (fun e => e.1 = t ∧ e.2.1 = ns) = true := by simp
  simp only [hany, if_true, List.map_append, hid, List.map_cons, List.map_nil, and_self]

/-- the inputs that can touch the session store -/
def touchesSess : Input → Bool
  | .getSession _ _ | .saveSession _ _ _ | .sessionBlock _ _ _ _ | .eioLost _ _ | .call _ _ _ _ _ => true
  | _ => false

theorem lostGo_sess {s : Srv} (cfg : Cfg) (t : Eio) (reason : Str) (outs : List Out)
    (nss : List Ns) : (handleLost.go cfg t reason s outs nss).1.sess = s.sess := by
  induction nss generalizing s outs with
  | nil => rfl
  | cons ns rest ih =>
    unfold handleLost.go
    rw [ih]
    rcases handleDisconnect_state cfg s t ns reason with ⟨h1, _⟩ | ⟨sid, k, _, _, h1⟩ <;>
      rw [h1] <;> rfl

/-- every other input leaves all stored sessions exactly as they are — in particular a
    namespace-level disconnect (client DISCONNECT or `disconnect()`) does -/
theorem sess_untouched {dec : Str → Except Err (Packet × Nat)} {cfg : Cfg} {s : Srv} (h : WF s)
    {i : Input} (hi : touchesSess i = false) : (step dec cfg s i).1.sess = s.sess := by
  cases i with
  | frame t v => rw [step]; exact (bound_handleFrame h dec cfg t v).sess
  | emit ev d ns to skip cb => rw [step]; exact (emit_keeps ..).sess
  | apiDisconnect sid ns =>
    rw [step]; unfold apiDisconnect
    split
    · rfl
    · obtain ⟨k, hk⟩ := endSession_state cfg s sid ns "server disconnect".toList true
      rw [hk]; rfl
  | enterRoom sid ns room => rw [step]; split <;> rfl
  | eioConnect t | leaveRoom sid ns room | closeRoom ns room | rooms sid ns => rw [step]
  | eioLost t r | call ev d ns sid during | getSession sid ns | saveSession sid ns v
  | sessionBlock sid ns k v => cases hi
  | settle => rw [step]; exact (core_fields (drain_core cfg _ [] s.bg)).sess

theorem run_sess_untouched {dec : Str → Except Err (Packet × Nat)} {cfg : Cfg} {s : Srv} (h : WF s)
    {is : List Input} (hi : ∀ i ∈ is, touchesSess i = false) : (run dec cfg s is).1.sess = s.sess := by
  induction is generalizing s with
  | nil => rw [run_nil]
  | cons i is ih =>
    rw [run_cons, ih (h.step dec cfg i) (fun j hj => hi j (List.mem_cons_of_mem _ hj))]
    exact sess_untouched h (hi i List.mem_cons_self)

theorem sessSock_inj {s : Srv} (h : WF s) {sid sid' : Sid} {ns ns' : Ns} {t t' : Eio}
    (h1 : sessSock s sid ns = some t) (h2 : sessSock s sid' ns' = some t')
    (hne : ¬ (sid' = sid ∧ ns' = ns)) : ¬ (t' = t ∧ ns' = ns) := by
  rintro ⟨rfl, rfl⟩
  apply hne
  refine ⟨?_, rfl⟩
  exact h.rooms.eioSid _ (eioOf_some_mem (sessSock_some h2).1) _ (eioOf_some_mem (sessSock_some h1).1)
    rfl rfl

theorem sessSock_sessSet (s : Srv) (t : Eio) (ns : Ns) (v : J) (sid' : Sid) (ns' : Ns) :
    sessSock (sessSet s t ns v) sid' ns' = sessSock s sid' ns' := by
  obtain ⟨a, _, c⟩ := sessSet_same s t ns v
  unfold sessSock
  rw [a, c]

end Sio.Server
