/-
  A drained cluster against the single reference server, callbacks included.  The words for it
  (`cbEvents`, `askedOf`), what an API call followed by a drain pass makes of every host (`Moves`,
  `on_moves`), calls and channel entries that leave the callback tables alone (`Keeps`), and the
  relation `KL` that links, for one client, the callback tables of the cluster with the table of
  the reference server, with its preservation lemmas on abstract tables (pure function updates).
-/
import Sio.Lemmas.PubSubRunOps
namespace Sio.PubSub
open Sio.Rooms

/-- the application callbacks invoked in `outs`: (token, arguments), hosts forgotten -/
def cbEvents : List Out → List (Nat × List J)
  | [] => []
  | .callback _ t a :: rest => (t, a) :: cbEvents rest
  | _ :: rest => cbEvents rest

theorem cbEvents_append (a b : List Out) : cbEvents (a ++ b) = cbEvents a ++ cbEvents b := by
  induction a with
  | nil => rfl
  | cons o a ih => cases o <;> simp [cbEvents, ih]

theorem appEvents_of_no_cb {outs : List Out} (h : cbEvents outs = []) :
    appEvents outs = (discEvents outs).map (fun p => AppEv.disconnected p.1 p.2) := by
  induction outs with
  | nil => rfl
  | cons o outs ih =>
    cases o <;> simp_all [cbEvents, appEvents, discEvents]

theorem appEvents_of_no_disc {outs : List Out} (h : discEvents outs = []) :
    appEvents outs = (cbEvents outs).map (fun p => AppEv.callback p.1 p.2) := by
  induction outs with
  | nil => rfl
  | cons o outs ih =>
    cases o <;> simp_all [cbEvents, appEvents, discEvents]

theorem appEvents_eq {a b : List Out} (hd : discEvents a = discEvents b) (hc : cbEvents a = cbEvents b)
    (hone : cbEvents b = [] ∨ discEvents b = []) : appEvents a = appEvents b := by
  rcases hone with h | h
  · rw [appEvents_of_no_cb h, appEvents_of_no_cb (hc.trans h), hd]
  · rw [appEvents_of_no_disc h, appEvents_of_no_disc (hd.trans h), hc]

theorem cbEvents_flatMap_nil {α : Type} (l : List α) (g : α → List Out) (h : ∀ x ∈ l, cbEvents (g x) = []) :
    cbEvents (l.flatMap g) = [] := by
  induction l with
  | nil => rfl
  | cons a l ih =>
    rw [List.flatMap_cons, cbEvents_append, h a List.mem_cons_self,
      ih (fun x hx => h x (List.mem_cons_of_mem _ hx))]
    rfl

def askedOf (asked : List (Sid × Nat)) (sid : Sid) : List Nat :=
  (asked.filter (fun a => a.1 = sid)).map (·.2)

theorem nthAsked_eq (asked : List (Sid × Nat)) (sid : Sid) (n : Nat) :
    nthAsked asked sid n = (askedOf asked sid)[n]? := by
  simp [nthAsked, askedOf]

theorem askedOf_append (a b : List (Sid × Nat)) (x : Sid) :
    askedOf (a ++ b) x = askedOf a x ++ askedOf b x := by
  simp [askedOf]

@[simp] theorem askedOf_nil (x : Sid) : askedOf [] x = [] := rfl

theorem askedOf_eq_nil {asked : List (Sid × Nat)} {x : Sid} (h : ∀ a ∈ asked, a.1 ≠ x) :
    askedOf asked x = [] := by
  simp only [askedOf, List.map_eq_nil_iff, List.filter_eq_nil_iff, decide_eq_true_eq]
  exact h

def Seen.asks : Seen → Bool
  | .event _ _ _ w => w
  | _ => false

theorem askedOf_single_self (r : Sid) (i : Nat) : askedOf [(r, i)] r = [i] := by
  simp [askedOf]

theorem askedOf_askedIn_length (outs : List Out) (x : Sid) :
    (askedOf (askedIn outs) x).length = ((seenBy x outs).filter Seen.asks).length := by
  induction outs with
  | nil => rfl
  | cons o outs ih =>
    cases o with
    | send host sid eio f =>
      obtain ⟨ns, ev, args, id⟩ := f
      cases id with
      | none =>
        simp only [askedIn, seenBy]
        split
        · simp [Seen.asks, ih]
        · exact ih
      | some i =>
        simp only [askedIn, seenBy, askedOf, List.length_map] at ih ⊢
        by_cases hs : sid = x
        · simp [hs, List.filter_cons, Seen.asks, ih]
        · simp [hs, ih]
    | sendDisc host sid eio ns =>
      simp only [askedIn, seenBy]
      split
      · simp [Seen.asks, ih]
      · exact ih
    | _ => simpa [askedIn, seenBy] using ih

theorem askedOf_askedIn_length_eq {oc os : List Out} (hseen : ∀ x, seenBy x oc = seenBy x os) (x : Sid) :
    (askedOf (askedIn oc) x).length = (askedOf (askedIn os) x).length := by
  rw [askedOf_askedIn_length, askedOf_askedIn_length, hseen x]

theorem catchUp_err (h : Host) (ms : List Msg) : (catchUp h ms).err = none := by
  cases ms <;> rfl

theorem catchUp_nil (h : Host) : catchUp h [] = { h := h } := rfl

theorem catchUp_one (h : Host) (m : Msg) :
    (catchUp h [m]).h = (listenMsg h m).h ∧ (catchUp h [m]).outs = (listenMsg h m).outs ∧
    (catchUp h [m]).pubs = (listenMsg h m).pubs :=
  ⟨rfl, List.append_nil _, List.append_nil _⟩

theorem drainHosts_quiet (A P : List Msg) (hosts : List Host)
    (hcur : ∀ h ∈ hosts, h.cursor = A.length)
    (hq : ∀ h ∈ hosts, (catchUp h P).pubs = []) :
    drainHosts (A ++ P) hosts =
      (hosts.map (fun h => { (catchUp h P).h with cursor := A.length + P.length }),
       hosts.flatMap (fun h => (catchUp h P).outs), A ++ P) := by
  induction hosts with
  | nil => rfl
  | cons h hs ih =>
    have hc := hcur h List.mem_cons_self
    have hb : ((A ++ P).drop A.length).take (A ++ P).length = P := by
      rw [List.drop_left]
      exact List.take_of_length_le (by simp)
    have hd : deliverOn (A ++ P) (A ++ P).length h =
        { h := { (catchUp h P).h with cursor := A.length + P.length }, outs := (catchUp h P).outs,
          pubs := [] } := by
      simp only [deliverOn, hc, hb, hq h List.mem_cons_self, catchUp_err]
    simp only [drainHosts, hd, List.append_nil, List.map_cons, List.flatMap_cons]
    rw [ih (fun x hx => hcur x (List.mem_cons_of_mem _ hx)) (fun x hx => hq x (List.mem_cons_of_mem _ hx))]

/-- `c'` is what a step that sends `outs` makes of the cluster `c`: every host `h` has become `G h`,
    with its cursor at the end of the channel -/
structure Moves (c : Cluster) (G : Host → Host) (outs : List Out) (c' : Cluster) : Prop where
  hosts : c'.hosts = c.hosts.map (fun h => { G h with cursor := c'.chan.length })
  asked : c'.asked = c.asked ++ askedIn outs

section moves
variable {c c' : Cluster} {G G' : Host → Host} {outs : List Out}

theorem Moves.drained (hm : Moves c G outs c') : ∀ h ∈ c'.hosts, h.cursor = c'.chan.length := by
  rw [hm.hosts]
  exact List.forall_mem_map.mpr (fun _ _ => rfl)

theorem Moves.congr (hm : Moves c G outs c') (h : ∀ h ∈ c.hosts, G h = G' h) : Moves c G' outs c' :=
  ⟨hm.hosts.trans (List.map_congr_left (fun x hx => by rw [h x hx])), hm.asked⟩

/-- a client that the reference run asks nothing is asked nothing -/
theorem Moves.askedOf_eq (hm : Moves c G outs c') {os : List Out} (hseen : ∀ x, seenBy x outs = seenBy x os)
    {x : Sid} (h : askedOf (askedIn os) x = []) : askedOf c'.asked x = askedOf c.asked x := by
  rw [hm.asked, askedOf_append, List.eq_nil_of_length_eq_zero
    ((askedOf_askedIn_length_eq hseen x).trans (congrArg List.length h)), List.append_nil]

theorem drain_moves (c : Cluster) (A P : List Msg) (hc : c.chan = A ++ P)
    (hcur : ∀ h ∈ c.hosts, h.cursor = A.length) (hq : ∀ h ∈ c.hosts, (catchUp h P).pubs = []) :
    Moves c (fun h => (catchUp h P).h) (step c .drain).2 (step c .drain).1 ∧
    (step c .drain).2 = c.hosts.flatMap (fun h => (catchUp h P).outs) := by
  have hd : step c .drain =
      ({ c with hosts := (drainHosts c.chan c.hosts).1, chan := (drainHosts c.chan c.hosts).2.2,
                asked := c.asked ++ askedIn (drainHosts c.chan c.hosts).2.1 },
        (drainHosts c.chan c.hosts).2.1) := rfl
  rw [hd, hc, drainHosts_quiet A P c.hosts hcur hq]
  exact ⟨⟨by simp only [List.length_append], rfl⟩, rfl⟩

end moves

/-- the call `f` on host `hv` followed by the drain pass -/
def onSync (c : Cluster) (hv : Host) (f : Host → Res) : Cluster × List Out :=
  ((step (c.on hv.id f).1 .drain).1, (c.on hv.id f).2 ++ (step (c.on hv.id f).1 .drain).2)

/-- an operation followed by the drain pass, as `runSync` performs it -/
def stepSync (c : Cluster) (op : Op) : Cluster × List Out :=
  ((step (step c op).1 .drain).1, (step c op).2 ++ (step (step c op).1 .drain).2)

theorem stepSync_on {c : Cluster} {op : Op} {hv : Host} {f : Host → Res} (hst : step c op = c.on hv.id f) :
    stepSync c op = onSync c hv f := by
  rw [stepSync, hst]; rfl

/-- what host `h` does in that step: the call if it is `hv`, then the entries the call published -/
def synced (hv : Host) (f : Host → Res) (h : Host) : Res :=
  catchUp (if h.id = hv.id then (f hv).h else h) (f hv).pubs

theorem synced_self (hv : Host) (f : Host → Res) : synced hv f hv = catchUp (f hv).h (f hv).pubs := by
  rw [synced, if_pos rfl]

theorem synced_other {hv h : Host} (f : Host → Res) (hid : h.id ≠ hv.id) :
    synced hv f h = catchUp h (f hv).pubs := by
  rw [synced, if_neg hid]

theorem synced_self_own {hv : Host} {f : Host → Res} {m : Msg} (hp : (f hv).pubs = [m])
    (hid : (f hv).h.id = hv.id) (hm : m.isCb = false) (ho : m.origin = some hv.id) :
    synced hv f hv = { h := (f hv).h } := by
  rw [synced_self, hp]
  simp only [catchUp, listenMsg_own _ m hm (ho.trans (congrArg some hid.symm))]
  rfl

theorem hosts_cases {hosts : List Host} (hnd : (hosts.map Host.id).Nodup) {hv : Host} (hin : hv ∈ hosts)
    {P : Host → Prop} (hself : P hv) (hother : ∀ h ∈ hosts, h.id ≠ hv.id → P h) : ∀ h ∈ hosts, P h := by
  intro h hh
  by_cases hid : h.id = hv.id
  · rw [eq_of_map_eq hnd hh hin hid]; exact hself
  · exact hother h hh hid

theorem on_moves (c : Cluster) (hnd : (c.hosts.map Host.id).Nodup)
    (hdr : ∀ h ∈ c.hosts, h.cursor = c.chan.length) (hv : Host) (hin : hv ∈ c.hosts) (f : Host → Res)
    (hcur : (f hv).h.cursor = hv.cursor) (hq : ∀ h ∈ c.hosts, (synced hv f h).pubs = []) :
    Moves c (fun h => (synced hv f h).h) (onSync c hv f).2 (onSync c hv f).1 ∧
    (onSync c hv f).2 = (f hv).outs ++ c.hosts.flatMap (fun h => (synced hv f h).outs) := by
  have h1 : (c.on hv.id f).1.hosts = c.hosts.map (fun h => if h.id = hv.id then (f hv).h else h) :=
    List.map_congr_left (hosts_cases hnd hin rfl (fun h _ hid => by rw [if_neg hid, if_neg hid]))
  obtain ⟨h2, h3⟩ := on_mem c f hnd hin
  obtain ⟨⟨d1, d2⟩, d3⟩ := drain_moves (c.on hv.id f).1 c.chan (f hv).pubs h2
    (by rw [h1]
        refine List.forall_mem_map.mpr (fun h hh => ?_)
        split
        · rw [hcur]; exact hdr hv hin
        · exact hdr h hh)
    (by rw [h1]; exact List.forall_mem_map.mpr hq)
  refine ⟨⟨?_, ?_⟩, ?_⟩
  · rw [onSync, d1, h1, List.map_map]; rfl
  · rw [onSync, d2, askedIn_append, ← List.append_assoc]; rfl
  · rw [onSync, d3, h3, h1, List.flatMap_map]; rfl

/-- One client `x` living on host `hid`.  `C o i` is the entry `callbacks[x][i]` of host `o`,
    `hctr` the counter `ack_counters[x]` of host `hid`; `Sx`, `sn` the same on the single server;
    `z` the ids the client has been asked to acknowledge, (cluster id, single-server id) in order.
    Every position is either spent on both sides, or the single server holds the user callback `t`
    and the cluster holds a relay on `hid` that points at a user entry `t` on the issuing host.
    `bij`: either id names the position, so the ACK of one position spends that position on both
    sides and no other; `inj`: no two positions point at the same user entry, so the entry that an
    ACK removes is missed by no other position. -/
structure KL (C : HostId → Nat → Option Cb) (hctr : Nat) (Sx : Nat → Option Cb) (sn : Nat) (x : Sid)
    (hid : HostId) (z : List (Nat × Nat)) : Prop where
  cb : ∀ p ∈ z, p.1 ≤ hctr
  sb : ∀ p ∈ z, p.2 ≤ sn
  bij : ∀ p ∈ z, ∀ q ∈ z, (p.1 = q.1 ↔ p.2 = q.2)
  pair : ∀ p ∈ z, (Sx p.2 = none ∧ C hid p.1 = none) ∨
    ∃ t o n' id0, Sx p.2 = some (.user t) ∧ C hid p.1 = some (.relay (some o) x n' id0) ∧
      C o id0 = some (.user t)
  inj : ∀ p ∈ z, ∀ q ∈ z, ∀ o n1 n2 id0, C hid p.1 = some (.relay o x n1 id0) →
    C hid q.1 = some (.relay o x n2 id0) → p.1 = q.1

/-- `_generate_ack_id` on the host called `v`: the next id gets `cb` -/
def regC (C : HostId → Nat → Option Cb) (N : HostId → Nat) (v : HostId) (cb : Cb) :
    HostId → Nat → Option Cb :=
  fun o i => if o = v ∧ i = N v + 1 then some cb else C o i

def regN (N : HostId → Nat) (v : HostId) : HostId → Nat := fun o => if o = v then N v + 1 else N o

/-- entry `j` of the host called `v` removed -/
def delC (v : HostId) (j : Nat) (C : HostId → Nat → Option Cb) : HostId → Nat → Option Cb :=
  fun o i => if o = v ∧ i = j then none else C o i

theorem regN_le (N : HostId → Nat) (v o : HostId) : N o ≤ regN N v o := by
  simp only [regN]; split
  · rename_i h; subst h; omega
  · exact Nat.le_refl _

theorem regC_old {C : HostId → Nat → Option Cb} {N : HostId → Nat} {o : HostId} {i : Nat} (hi : i ≤ N o)
    (v : HostId) (cb : Cb) : regC C N v cb o i = C o i :=
  if_neg (by rintro ⟨rfl, rfl⟩; omega)

theorem delC_some {C : HostId → Nat → Option Cb} {v o : HostId} {j i : Nat} {cb : Cb}
    (h : delC v j C o i = some cb) : C o i = some cb := by
  unfold delC at h
  split at h
  · cases h
  · exact h

section kl
variable {C : HostId → Nat → Option Cb} {Sx : Nat → Option Cb} {sn : Nat} {x : Sid} {hid : HostId}
  {z : List (Nat × Nat)}

theorem KL.nil {hctr : Nat} : KL C hctr Sx sn x hid [] :=
  ⟨List.forall_mem_nil _, List.forall_mem_nil _, List.forall_mem_nil _, List.forall_mem_nil _, List.forall_mem_nil _⟩

/-- a change of the tables that leaves alone every entry that exists, every position of `z` (also the
    spent ones) and lets the counters grow only -/
theorem KL.mono {C' : HostId → Nat → Option Cb} {Sx' : Nat → Option Cb} {hctr hctr' sn' : Nat}
    (hk : KL C hctr Sx sn x hid z) (hc : hctr ≤ hctr') (hs : sn ≤ sn')
    (hC : ∀ o i, C o i ≠ none → C' o i = C o i) (hC0 : ∀ p ∈ z, C' hid p.1 = C hid p.1)
    (hS : ∀ p ∈ z, Sx' p.2 = Sx p.2) : KL C' hctr' Sx' sn' x hid z := by
  refine ⟨fun p hp => Nat.le_trans (hk.cb p hp) hc, fun p hp => Nat.le_trans (hk.sb p hp) hs, hk.bij, ?_,
    fun p hp q hq o n1 n2 id0 e1 e2 =>
      hk.inj p hp q hq o n1 n2 id0 ((hC0 p hp).symm.trans e1) ((hC0 q hq).symm.trans e2)⟩
  intro p hp
  rcases hk.pair p hp with ⟨h1, h2⟩ | ⟨t, o, n', id0, h1, h2, h3⟩
  · exact Or.inl ⟨(hS p hp).trans h1, (hC0 p hp).trans h2⟩
  · exact Or.inr ⟨t, o, n', id0, (hS p hp).trans h1, (hC0 p hp).trans h2,
      (hC o id0 (by rw [h3]; simp)).trans h3⟩

/-- `_generate_ack_id(x, cb)` on host `v` (any host, any entry): the id is new -/
theorem KL.reg_host {N : HostId → Nat} (hk : KL C (N hid) Sx sn x hid z)
    (hb : ∀ o i, C o i ≠ none → i ≤ N o) (v : HostId) (cb : Cb) :
    KL (regC C N v cb) (regN N v hid) Sx sn x hid z :=
  hk.mono (regN_le N v hid) (Nat.le_refl _) (fun o i hne => regC_old (hb o i hne) v cb)
    (fun p hp => regC_old (hk.cb p hp) v cb) (fun _ _ => rfl)

theorem KL.snoc {hctr : Nat} (hk : KL C hctr Sx sn x hid z) (ic is : Nat) (hic : ic ≤ hctr) (his : is ≤ sn)
    (hlt1 : ∀ p ∈ z, p.1 < ic) (hlt2 : ∀ p ∈ z, p.2 < is) (t : Nat) (o : HostId) (n' : Ns) (id0 : Nat)
    (h1 : Sx is = some (.user t)) (h2 : C hid ic = some (.relay (some o) x n' id0))
    (h3 : C o id0 = some (.user t))
    (hnew : ∀ p ∈ z, ∀ n1, C hid p.1 ≠ some (.relay (some o) x n1 id0)) :
    KL C hctr Sx sn x hid (z ++ [(ic, is)]) := by
  have hm : ∀ p, p ∈ z ++ [(ic, is)] ↔ p ∈ z ∨ p = (ic, is) := by
    intro p; simp
  refine ⟨List.forall_mem_append.mpr ⟨hk.cb, List.forall_mem_singleton.mpr hic⟩,
    List.forall_mem_append.mpr ⟨hk.sb, List.forall_mem_singleton.mpr his⟩, ?_,
    List.forall_mem_append.mpr ⟨hk.pair, List.forall_mem_singleton.mpr (Or.inr ⟨t, o, n', id0, h1, h2, h3⟩)⟩, ?_⟩
  · intro p hp q hq
    rcases (hm p).mp hp with hp' | rfl <;> rcases (hm q).mp hq with hq' | rfl
    · exact hk.bij p hp' q hq'
    · exact iff_of_false (Nat.ne_of_lt (hlt1 p hp')) (Nat.ne_of_lt (hlt2 p hp'))
    · exact iff_of_false (Nat.ne_of_gt (hlt1 q hq')) (Nat.ne_of_gt (hlt2 q hq'))
    · exact ⟨fun _ => rfl, fun _ => rfl⟩
  · intro p hp q hq o' n1 n2 id0' e1 e2
    rcases (hm p).mp hp with hp' | rfl <;> rcases (hm q).mp hq with hq' | rfl
    · exact hk.inj p hp' q hq' o' n1 n2 id0' e1 e2
    · cases h2.symm.trans e2
      exact absurd e1 (hnew p hp' n1)
    · cases h2.symm.trans e1
      exact absurd e2 (hnew q hq' n2)
    · rfl

/-- An emit with a callback `tok` through host `v` that reaches the client: the user entry on `v`, then
    the relay pointing at it on the client's host, the user entry on the single server, and a new
    linked position for the ids just handed out. -/
theorem KL.emit {N : HostId → Nat} (hk : KL C (N hid) Sx sn x hid z) (hb : ∀ o i, C o i ≠ none → i ≤ N o)
    (v : HostId) (tok : Nat) (n' : Ns) :
    KL (regC (regC C N v (.user tok)) (regN N v) hid (.relay (some v) x n' (N v + 1)))
      (regN (regN N v) hid hid) (fun i => if i = sn + 1 then some (.user tok) else Sx i) (sn + 1) x hid
      (z ++ [(regN N v hid + 1, sn + 1)]) := by
  have hold : ∀ o i, i ≤ N o →
      regC (regC C N v (.user tok)) (regN N v) hid (.relay (some v) x n' (N v + 1)) o i = C o i :=
    fun o i hi => (regC_old (Nat.le_trans hi (regN_le N v o)) _ _).trans (regC_old hi _ _)
  have hle := regN_le N v hid
  have k3 : KL _ (regN (regN N v) hid hid) (fun i => if i = sn + 1 then some (.user tok) else Sx i) (sn + 1)
      x hid z :=
    hk.mono (Nat.le_trans hle (regN_le _ hid hid)) (Nat.le_succ _) (fun o i hne => hold o i (hb o i hne))
      (fun p hp => hold hid p.1 (hk.cb p hp)) (fun p hp => if_neg (by have := hk.sb p hp; omega))
  refine k3.snoc _ _ (by simp only [regN, if_true]; exact Nat.le_refl _) (Nat.le_refl _) ?_ ?_ tok v n'
    (N v + 1) (if_pos rfl) ?_ ?_ ?_
  · intro p hp
    have := hk.cb p hp
    omega
  · intro p hp
    have := hk.sb p hp
    omega
  · -- the relay sits in the new slot of the client's host
    exact if_pos ⟨rfl, rfl⟩
  · -- the user callback sits in the new slot of the issuing host
    have hc1 : ¬ (v = hid ∧ N v + 1 = regN N v hid + 1) := by
      rintro ⟨he, hi⟩
      have : regN N v hid = N v + 1 := by unfold regN; rw [if_pos he.symm]
      omega
    exact (if_neg hc1).trans (if_pos ⟨rfl, rfl⟩)
  · -- no earlier position points at the new user entry: that slot was empty
    intro p hp n1 hc
    rw [hold hid p.1 (hk.cb p hp)] at hc
    rcases hk.pair p hp with ⟨_, d2⟩ | ⟨t, o, n'', id0, _, l2, l3⟩
    · rw [d2] at hc; cases hc
    · rw [l2] at hc
      cases hc
      have := hb v (N v + 1) (by rw [l3]; simp)
      omega

theorem KL.ack {hctr : Nat} (hk : KL C hctr Sx sn x hid z) (p : Nat × Nat) (hp : p ∈ z) (t : Nat)
    (o : HostId) (n' : Ns) (id0 : Nat)
    (h2 : C hid p.1 = some (.relay (some o) x n' id0)) (h3 : C o id0 = some (.user t)) :
    KL (delC o id0 (delC hid p.1 C)) hctr (fun i => if i = p.2 then none else Sx i) sn x hid z := by
  have keep : ∀ o' i cb, C o' i = some cb → ¬ (o' = hid ∧ i = p.1) → ¬ (o' = o ∧ i = id0) →
      delC o id0 (delC hid p.1 C) o' i = some cb := by
    intro o' i cb hc n1 n2; simp only [delC, if_neg n1, if_neg n2, hc]
  refine ⟨hk.cb, hk.sb, hk.bij, ?_, ?_⟩
  · intro q hq
    by_cases hq1 : q.1 = p.1
    · have hq2 : q.2 = p.2 := (hk.bij q hq p hp).mp hq1
      exact Or.inl ⟨by simp [hq2], by simp [delC, hq1]⟩
    · have hq2 : q.2 ≠ p.2 := fun h => hq1 ((hk.bij q hq p hp).mpr h)
      rcases hk.pair q hq with ⟨a1, a2⟩ | ⟨t', o', n'', id0', a1, a2, a3⟩
      · exact Or.inl ⟨by simp [hq2, a1], by simp only [delC, a2, ite_self]⟩
      · refine Or.inr ⟨t', o', n'', id0', by simp [hq2, a1], keep _ _ _ a2 ?_ ?_, keep _ _ _ a3 ?_ ?_⟩
        · rintro ⟨_, h⟩; exact hq1 h
        · rintro ⟨h, h'⟩; rw [h, h', h3] at a2; cases a2
        · rintro ⟨h, h'⟩; rw [h, h', h2] at a3; cases a3
        · rintro ⟨h, h'⟩; subst h h'; exact hq1 (hk.inj q hq p hp _ _ _ _ a2 h2)
  · intro q hq r hr o' n1 n2 id0' e1 e2
    exact hk.inj q hq r hr o' n1 n2 id0' (delC_some (delC_some e1)) (delC_some (delC_some e2))

end kl

/-- no entry above the counter of its key -/
def Host.Bounded (h : Host) : Prop := ∀ k i, h.cbs k i ≠ none → i ≤ h.ctr k

theorem Host.Bounded.congr {h g : Host} (hb : h.Bounded) (h1 : g.cbs = h.cbs) (h2 : g.ctr = h.ctr) :
    g.Bounded := fun k i hne => by rw [h2]; exact hb k i (h1 ▸ hne)

theorem register_cbs (h : Host) (k : Str) (cb : Cb) (k' : Str) (i : Nat) :
    (register h k cb).1.cbs k' i = if k' = k ∧ i = h.ctr k + 1 then some cb else h.cbs k' i := rfl

theorem register_ctr (h : Host) (k : Str) (cb : Cb) (k' : Str) :
    (register h k cb).1.ctr k' = if k' = k then h.ctr k + 1 else h.ctr k' := rfl

theorem register_bounded {h : Host} (hb : h.Bounded) (k : Str) (cb : Cb) : (register h k cb).1.Bounded := by
  intro k' i hne
  rw [register_cbs] at hne
  rw [register_ctr]
  split at hne
  · rename_i hc; obtain ⟨rfl, rfl⟩ := hc; simp
  · have := hb k' i hne
    split
    · rename_i hk; subst hk; omega
    · exact this

theorem delCb_bounded {h : Host} (hb : h.Bounded) (k : Str) (i : Nat) : (delCb h k i).Bounded := by
  intro k' j hne
  simp only [delCb] at hne ⊢
  split at hne
  · exact absurd rfl hne
  · exact hb k' j hne

theorem dropSid_bounded {h : Host} (hb : h.Bounded) (ns : Ns) (sid : Sid) : (dropSid h ns sid).Bounded := by
  intro k j hne
  simp only [dropSid] at hne ⊢
  split at hne
  · exact absurd rfl hne
  · rename_i hk
    rw [if_neg hk]
    exact hb k j hne

theorem recipients_personal {rooms : Rooms.St} (hinv : Inv rooms) (ns : Ns) (r : Room) (skip : List Sid)
    (hpers : ∀ e ∈ rooms, e.ns = ns → e.room = some r → e.sid = r) :
    recipients rooms ns (.one r) skip = [] ∨ ∃ eio, recipients rooms ns (.one r) skip = [(r, eio)] := by
  have hall : ∀ p ∈ recipients rooms ns (.one r) skip, p.1 = r :=
    fun p hp => hpers _ (mem_roomMembers.mp (List.mem_filter.mp hp).1) rfl rfl
  have hnd := recipients_fst_nodup hinv ns (.one r) skip
  generalize recipients rooms ns (.one r) skip = l at hall hnd
  match l, hall, hnd with
  | [], _, _ => exact Or.inl rfl
  | [p], hall, _ =>
    refine Or.inr ⟨p.2, ?_⟩
    have := hall p List.mem_cons_self
    rw [← this]
  | p :: q :: rest, hall, hnd =>
    have h1 := hall p List.mem_cons_self
    have h2 := hall q (List.mem_cons_of_mem _ List.mem_cons_self)
    simp only [List.map_cons, List.nodup_cons, List.mem_cons] at hnd
    exact absurd (Or.inl (h1.trans h2.symm)) hnd.1

theorem emitLocal_none_host (h : Host) (ns : Ns) (t : Target) (skip : List Sid) (ev : J) (args : List J) :
    (emitLocal h ns t skip ev args none).1 = h ∧ cbEvents (emitLocal h ns t skip ev args none).2 = [] ∧
    askedIn (emitLocal h ns t skip ev args none).2 = [] := by
  unfold emitLocal
  split
  · exact ⟨rfl, rfl, rfl⟩
  · refine ⟨rfl, ?_, ?_⟩ <;>
    · simp only
      generalize recipients h.rooms ns t skip = l
      induction l with
      | nil => rfl
      | cons p ps ih => simpa only [List.map_cons, cbEvents, askedIn] using ih

theorem dropSid_cbs_ne (h : Host) (ns : Ns) (x : Sid) {y : Str} (hy : y ≠ x) :
    (dropSid h ns x).cbs y = h.cbs y ∧ (dropSid h ns x).ctr y = h.ctr y :=
  ⟨funext fun _ => if_neg hy, if_neg hy⟩

theorem delCb_cbs (h : Host) (x : Str) (j : Nat) :
    (∀ y, y ≠ x → (delCb h x j).cbs y = h.cbs y) ∧
    ((delCb h x j).cbs x = fun i => if i = j then none else h.cbs x i) := by
  refine ⟨fun y hy => funext fun _ => if_neg (fun e => hy e.1), ?_⟩
  funext i; simp [delCb]

/-- `g` has the id of `h`, and its callback table and counter except under key `k`; no entry above
    its counter if there was none -/
structure OnlyKey (k : Str) (h g : Host) : Prop where
  id : g.id = h.id
  other : ∀ y, y ≠ k → g.cbs y = h.cbs y ∧ g.ctr y = h.ctr y
  bounded : h.Bounded → g.Bounded

theorem OnlyKey.trans {k : Str} {h g g' : Host} (a : OnlyKey k h g) (b : OnlyKey k g g') : OnlyKey k h g' :=
  ⟨b.id.trans a.id,
    fun y hy => ⟨(b.other y hy).1.trans (a.other y hy).1, (b.other y hy).2.trans (a.other y hy).2⟩,
    fun hb => b.bounded (a.bounded hb)⟩

theorem OnlyKey.registerIf (P : Prop) [Decidable P] (k : Str) (cb : Cb) (h : Host) :
    OnlyKey k h (if P then (register h k cb).1 else h) := by
  split
  · exact ⟨rfl, fun y hy => ⟨funext fun _ => if_neg (fun e => hy e.1), if_neg hy⟩, fun hb => register_bounded hb k cb⟩
  · exact ⟨rfl, fun _ _ => ⟨rfl, rfl⟩, fun hb => hb⟩

theorem OnlyKey.delIf (P : Prop) [Decidable P] (k : Str) (j : Nat) (h : Host) :
    OnlyKey k h (if P then delCb h k j else h) := by
  split
  · exact ⟨rfl, fun y hy => ⟨(delCb_cbs h k j).1 y hy, rfl⟩, fun hb => delCb_bounded hb k j⟩
  · exact ⟨rfl, fun _ _ => ⟨rfl, rfl⟩, fun hb => hb⟩

/-- `r` is what host `h` makes of a call or a channel entry that touches neither its callback table
    nor its counters and runs no callback -/
structure Keeps (r : Res) (h : Host) : Prop where
  id : r.h.id = h.id
  cursor : r.h.cursor = h.cursor
  cbs : r.h.cbs = h.cbs
  ctr : r.h.ctr = h.ctr
  quiet : cbEvents r.outs = []

theorem Keeps.of_eq {r : Res} {h : Host} (hh : r.h = h) (hq : cbEvents r.outs = []) : Keeps r h := by
  subst hh; exact ⟨rfl, rfl, rfl, rfl, hq⟩

/-- room bookkeeping, and emits without a callback -/
def Msg.plain : Msg → Prop
  | .enterRoom .. => True
  | .leaveRoom .. => True
  | .closeRoom .. => True
  | .emit _ _ _ _ to _ cb => cb = none ∧ Target.ok to
  | _ => False

theorem listenMsg_plain (h : Host) (m : Msg) (hm : m.plain) :
    Keeps (listenMsg h m) h ∧ (listenMsg h m).pubs = [] := by
  by_cases hown : m.origin = some h.id
  · have hcb : m.isCb = false := by cases m <;> first | rfl | exact False.elim hm
    rw [listenMsg_own h m hcb hown]
    exact ⟨.of_eq rfl rfl, rfl⟩
  · cases m with
    | callback | disconnect => exact hm.elim
    | emit o ev d ns to skip cb =>
      obtain ⟨rfl, hok⟩ := hm
      rw [listenMsg_emit_eq h o ev d ns to skip none (fun e => hown (congrArg some e)) hok]
      have := emitLocal_none_host h ns to skip.toList (.str ev) d.pack
      exact ⟨.of_eq this.1 this.2.1, rfl⟩
    | enterRoom o sid ns room =>
      rw [listenMsg_enterRoom_eq h o sid ns room (fun e => hown (congrArg some e))]
      split <;> exact ⟨⟨rfl, rfl, rfl, rfl, rfl⟩, rfl⟩
    | leaveRoom o sid ns room =>
      rw [listenMsg_leaveRoom_eq h o sid ns room (fun e => hown (congrArg some e))]
      split <;> exact ⟨⟨rfl, rfl, rfl, rfl, rfl⟩, rfl⟩
    | closeRoom o ns room =>
      rw [listenMsg_closeRoom_eq h o ns room (fun e => hown (congrArg some e))]
      exact ⟨⟨rfl, rfl, rfl, rfl, rfl⟩, rfl⟩

theorem localDisconnect_single (h : Host) (x : Sid) (ns : Ns) :
    cbEvents (localDisconnect h x ns).outs = [] ∧ askedIn (localDisconnect h x ns).outs = [] ∧
    (localDisconnect h x ns).pubs = [] ∧
    ((eioOf h.rooms ns x = none ∧ (localDisconnect h x ns).h = h) ∨
     (h.connected ns x = true ∧ (localDisconnect h x ns).h = dropSid h ns x)) := by
  unfold localDisconnect Host.connected
  cases eioOf h.rooms ns x with
  | none => exact ⟨rfl, rfl, rfl, Or.inl ⟨rfl, rfl⟩⟩
  | some eio => exact ⟨rfl, rfl, rfl, Or.inr ⟨rfl, rfl⟩⟩

theorem listenMsg_disconnect (h : Host) (o : HostId) (sid : Sid) (ns : Ns) :
    (listenMsg h (.disconnect o sid ns)).pubs = [] ∧ cbEvents (listenMsg h (.disconnect o sid ns)).outs = [] ∧
    ((listenMsg h (.disconnect o sid ns)).h = h ∨
      (h.connected ns sid = true ∧ (listenMsg h (.disconnect o sid ns)).h = dropSid h ns sid)) := by
  by_cases ho : o = h.id
  · rw [listenMsg_own h (.disconnect o sid ns) rfl (congrArg some ho)]
    exact ⟨rfl, rfl, Or.inl rfl⟩
  · rw [listenMsg_disconnect_eq h o sid ns ho]
    obtain ⟨a, _, b, d⟩ := localDisconnect_single h sid ns
    exact ⟨b, a, d.imp And.right id⟩

/-- first `r` on `h`, then `r'` on the host that `r` leaves; `R` is what comes of both -/
theorem Keeps.after {r r' R : Res} {h : Host} (k : Keeps r' r.h) (k0 : Keeps r h) (hh : R.h = r'.h)
    (hq : cbEvents R.outs = []) : Keeps R h :=
  ⟨hh ▸ k.id.trans k0.id, hh ▸ k.cursor.trans k0.cursor, hh ▸ k.cbs.trans k0.cbs, hh ▸ k.ctr.trans k0.ctr, hq⟩

theorem catchUp_plain (h : Host) (ms : List Msg) (hp : ∀ m ∈ ms, m.plain) :
    Keeps (catchUp h ms) h ∧ (catchUp h ms).pubs = [] := by
  induction ms generalizing h with
  | nil => exact ⟨.of_eq rfl rfl, rfl⟩
  | cons m ms ih =>
    obtain ⟨l, lp⟩ := listenMsg_plain h m (hp m List.mem_cons_self)
    obtain ⟨k, kp⟩ := ih (listenMsg h m).h (fun x hx => hp x (List.mem_cons_of_mem _ hx))
    refine ⟨k.after l rfl ?_, ?_⟩
    · show cbEvents ((listenMsg h m).outs ++ _) = []
      rw [cbEvents_append, l.quiet, k.quiet]; rfl
    · show (listenMsg h m).pubs ++ _ = []
      rw [lp, kp]; rfl

theorem on_keeps {c : Cluster} (hnd : (c.hosts.map Host.id).Nodup)
    (hdr : ∀ h ∈ c.hosts, h.cursor = c.chan.length) (hv : Host) (hin : hv ∈ c.hosts) (f : Host → Res)
    (hf : Keeps (f hv) hv) (hP : ∀ m ∈ (f hv).pubs, m.plain) :
    ∃ G, Moves c G (onSync c hv f).2 (onSync c hv f).1 ∧
      (∀ h ∈ c.hosts, (G h).id = h.id ∧ (G h).cbs = h.cbs ∧ (G h).ctr = h.ctr) ∧
      cbEvents (onSync c hv f).2 = [] := by
  have key : ∀ h ∈ c.hosts, Keeps (synced hv f h) h ∧ (synced hv f h).pubs = [] :=
    hosts_cases hnd hin
      (by rw [synced_self]
          obtain ⟨k, kp⟩ := catchUp_plain (f hv).h _ hP
          exact ⟨k.after hf rfl k.quiet, kp⟩)
      (fun h _ hid => by rw [synced_other f hid]; exact catchUp_plain h _ hP)
  obtain ⟨hm, ho⟩ := on_moves c hnd hdr hv hin f hf.cursor (fun h hh => (key h hh).2)
  refine ⟨_, hm, fun h hh => ⟨(key h hh).1.id, (key h hh).1.cbs, (key h hh).1.ctr⟩, ?_⟩
  rw [ho, cbEvents_append, hf.quiet]
  exact cbEvents_flatMap_nil _ _ (fun h hh => (key h hh).1.quiet)

end Sio.PubSub
