/-
  K6 (pub/sub): where the user callback `tok` is stored, and when it is invoked.  The listener never
  creates a user entry; `trigger_callback` removes an entry before it invokes it.
-/
import Sio.Lemmas.PubSubRunOps
namespace Sio.PubSub
open Sio.Rooms

def isCbTok (tok : Nat) : Out → Bool
  | .callback _ t _ => t == tok
  | _ => false

/-- how often the application callback `tok` is invoked in `outs` -/
def cbCount (tok : Nat) (outs : List Out) : Nat := outs.countP (isCbTok tok)

theorem cbCount_append (tok : Nat) (a b : List Out) : cbCount tok (a ++ b) = cbCount tok a + cbCount tok b :=
  List.countP_append

/-- every invocation of `tok` in `outs` happens on host `v` -/
def CbOn (tok : Nat) (v : HostId) (outs : List Out) : Prop :=
  ∀ o ∈ outs, ∀ host args, o = Out.callback host tok args → host = v

theorem CbOn.append {tok : Nat} {v : HostId} {a b : List Out} (ha : CbOn tok v a) (hb : CbOn tok v b) :
    CbOn tok v (a ++ b) :=
  List.forall_mem_append.mpr ⟨ha, hb⟩

theorem CbOn.of_count_zero {tok : Nat} {v : HostId} {a : List Out} (h : cbCount tok a = 0) : CbOn tok v a := by
  intro o ho host args he
  subst he
  have := (List.countP_eq_zero.mp h) _ ho
  simp [isCbTok] at this

/-- `h1`'s user entries for `tok` are among `h0`'s -/
def UserSub (tok : Nat) (h1 h0 : Host) : Prop :=
  ∀ k i, h1.cbs k i = some (.user tok) → h0.cbs k i = some (.user tok)

theorem UserSub.refl (tok : Nat) (h : Host) : UserSub tok h h := fun _ _ hx => hx
theorem UserSub.trans {tok : Nat} {a b c : Host} (h1 : UserSub tok a b) (h2 : UserSub tok b c) :
    UserSub tok a c := fun k i hx => h2 k i (h1 k i hx)

theorem register_userSub (tok : Nat) (h : Host) (key : Str) (cb : Cb) (hne : cb ≠ .user tok) :
    UserSub tok (register h key cb).1 h := by
  intro k i hx
  simp only [register] at hx
  split at hx
  · exact absurd (Option.some.inj hx) hne
  · exact hx

theorem sendCb_userSub (tok : Nat) (cb : Cb) (hne : cb ≠ .user tok) (ns : Ns) (ev : J) (args : List J)
    (h : Host) (l : List (Sid × Eio)) : UserSub tok (sendCb cb ns ev args h l).1 h ∧
      cbCount tok (sendCb cb ns ev args h l).2 = 0 := by
  induction l generalizing h with
  | nil => exact ⟨UserSub.refl tok h, rfl⟩
  | cons p ps ih =>
    simp only [sendCb]
    have := ih (register h p.1 cb).1
    exact ⟨this.1.trans (register_userSub tok h p.1 cb hne), by simpa [cbCount, isCbTok] using this.2⟩

theorem emitLocal_userSub (tok : Nat) (h : Host) (ns : Ns) (t : Target) (skip : List Sid) (ev : J)
    (args : List J) (cb : Option Cb) (hne : cb ≠ some (.user tok)) :
    UserSub tok (emitLocal h ns t skip ev args cb).1 h ∧
    cbCount tok (emitLocal h ns t skip ev args cb).2 = 0 := by
  unfold emitLocal
  split
  · exact ⟨UserSub.refl tok h, rfl⟩
  · cases cb with
    | none =>
      refine ⟨UserSub.refl tok h, ?_⟩
      simp only [cbCount]
      rw [List.countP_eq_zero]
      intro o ho
      obtain ⟨p, _, rfl⟩ := List.mem_map.mp ho
      simp [isCbTok]
    | some c => exact sendCb_userSub tok c (fun hc => hne (by rw [hc])) ns ev args h _

/-- every user entry for `tok` on `h` sits in slot `(k, i)` -/
def OneSlot (tok : Nat) (h : Host) (k : Str) (i : Nat) : Prop :=
  ∀ k' i', h.cbs k' i' = some (.user tok) → k' = k ∧ i' = i

/-- `h` stores no user entry for `tok` -/
def NoTokH (tok : Nat) (h : Host) : Prop := ∀ k i, h.cbs k i ≠ some (.user tok)

theorem NoTokH.oneSlot {tok : Nat} {h : Host} (hn : NoTokH tok h) (k : Str) (i : Nat) : OneSlot tok h k i :=
  fun k' i' hx => absurd hx (hn k' i')

theorem NoTokH.sub {tok : Nat} {h1 h0 : Host} (hn : NoTokH tok h0) (hs : UserSub tok h1 h0) : NoTokH tok h1 :=
  fun k i hx => hn k i (hs k i hx)

theorem OneSlot.sub {tok : Nat} {h1 h0 : Host} {k : Str} {i : Nat} (ho : OneSlot tok h0 k i)
    (hs : UserSub tok h1 h0) : OneSlot tok h1 k i := fun k' i' hx => ho k' i' (hs k' i' hx)

/-- What one piece of manager code on one host does to `tok`: entries only disappear; `tok` is
    invoked at most once, on this host, and only if it was stored here — and if `(k, i)` was its
    only slot, it is stored nowhere afterwards. -/
structure TokFacts (tok : Nat) (k : Str) (i : Nat) (h : Host) (r : Res) : Prop where
  sub : UserSub tok r.h h
  id : r.h.id = h.id
  le : cbCount tok r.outs ≤ 1
  on : CbOn tok h.id r.outs
  gone : OneSlot tok h k i → cbCount tok r.outs = 1 → NoTokH tok r.h
  zero : NoTokH tok h → cbCount tok r.outs = 0

theorem TokFacts.quiet {tok : Nat} {k : Str} {i : Nat} {h : Host} {r : Res} (hs : UserSub tok r.h h)
    (hid : r.h.id = h.id) (h0 : cbCount tok r.outs = 0) : TokFacts tok k i h r :=
  ⟨hs, hid, by omega, CbOn.of_count_zero h0, fun _ hc => by omega, fun _ => h0⟩

theorem delCb_userSub (tok : Nat) (h : Host) (key : Str) (id : Nat) :
    UserSub tok (delCb h key id) h := by
  intro k i hx
  simp only [delCb] at hx
  split at hx
  · cases hx
  · exact hx

theorem trigger_tok (tok : Nat) (k : Str) (i : Nat) (fuel : Nat) (h : Host) (key : Str) (id : Nat)
    (args : Option (List J)) : TokFacts tok k i h (trigger fuel h key id args) := by
  refine trigger_induct (P := TokFacts tok k i) args (fun h => .quiet (UserSub.refl tok h) rfl rfl)
    (fun h key id _ => .quiet (delCb_userSub tok h key id) rfl rfl) ?_
    (fun h key id _ _ _ _ _ _ _ => .quiet (delCb_userSub tok h key id) rfl rfl) ?_ fuel h key id
  · intro h key id t xs _ hcb
    have hdel := delCb_userSub tok h key id
    by_cases ht : t = tok
    · subst ht
      refine ⟨hdel, rfl, by simp [cbCount, isCbTok], ?_, ?_, fun hn => absurd hcb (hn key id)⟩
      · intro o ho host args' he
        cases List.mem_singleton.mp ho; cases he; rfl
      · -- the one slot is the one just deleted
        intro hs _ k' i' hx
        obtain ⟨rfl, rfl⟩ := hs key id hcb
        obtain ⟨rfl, rfl⟩ := hs k' i' (hdel k' i' hx)
        simp [delCb] at hx
    · exact .quiet hdel rfl (by simp [cbCount, isCbTok, ht])
  · -- a local relay: the next link runs on the state without this entry
    intro h key id r F
    have hdel := delCb_userSub tok h key id
    exact ⟨F.sub.trans hdel, F.id, F.le, F.on, fun hs => F.gone (hs.sub hdel), fun hn => F.zero (hn.sub hdel)⟩

theorem dropSid_userSub (tok : Nat) (h : Host) (ns : Ns) (sid : Sid) : UserSub tok (dropSid h ns sid) h := by
  intro k i hx
  simp only [dropSid] at hx
  split at hx
  · cases hx
  · exact hx

theorem localDisconnect_tok (tok : Nat) (h : Host) (sid : Sid) (ns : Ns) :
    UserSub tok (localDisconnect h sid ns).h h ∧ cbCount tok (localDisconnect h sid ns).outs = 0 := by
  unfold localDisconnect
  split
  · exact ⟨UserSub.refl tok h, rfl⟩
  · exact ⟨dropSid_userSub tok h ns sid, by simp [cbCount, isCbTok]⟩

theorem listenMsg_tok (tok : Nat) (k : Str) (i : Nat) (h : Host) (m : Msg)
    (hok : ∀ o ev d ns to skip cb, m = .emit o ev d ns to skip cb → Target.ok to) :
    TokFacts tok k i h (listenMsg h m) := by
  have idle : TokFacts tok k i h { h := h } := .quiet (UserSub.refl tok h) rfl rfl
  cases hcb : m.isCb with
  | true =>
    cases m with
    | callback origin key ns id args =>
      rw [listenMsg_callback]
      split
      · exact trigger_tok tok k i chainFuel h key id (some args)
      · exact idle
    | _ => cases hcb
  | false =>
    by_cases hown : m.origin = some h.id
    · rw [listenMsg_own h m hcb hown]; exact idle
    · cases m with
      | callback => cases hcb
      | emit o ev d ns to skip cb =>
        rw [listenMsg_emit_eq h o ev d ns to skip cb (fun he => hown (congrArg some he))
          (hok o ev d ns to skip cb rfl)]
        have hne : relayOf o cb ≠ some (.user tok) := by
          cases cb with
          | none => nofun
          | some c => obtain ⟨k, n, i⟩ := c; nofun
        have := emitLocal_userSub tok h ns to skip.toList (.str ev) d.pack (relayOf o cb) hne
        exact .quiet this.1 (emitLocal_rooms h ns to _ _ _ _).2.1 this.2
      | disconnect o sid ns =>
        rw [listenMsg_disconnect_eq h o sid ns (fun he => hown (congrArg some he))]
        have := localDisconnect_tok tok h sid ns
        exact .quiet this.1 (localDisconnect_obs h sid ns).1 this.2
      | enterRoom o sid ns room =>
        rw [listenMsg_enterRoom_eq h o sid ns room (fun he => hown (congrArg some he))]
        split <;> exact .quiet (fun _ _ hx => hx) rfl rfl
      | leaveRoom o sid ns room =>
        rw [listenMsg_leaveRoom_eq h o sid ns room (fun he => hown (congrArg some he))]
        split <;> exact .quiet (fun _ _ hx => hx) rfl rfl
      | closeRoom o ns room =>
        rw [listenMsg_closeRoom_eq h o ns room (fun he => hown (congrArg some he))]
        exact .quiet (fun _ _ hx => hx) rfl rfl

theorem catchUp_tok (tok : Nat) (h : Host) (hinv : Inv h.rooms) (ms : List Msg) (hok : EmitsOk ms)
    (k : Str) (i : Nat) (hs : OneSlot tok h k i) : TokFacts tok k i h (catchUp h ms) := by
  induction ms generalizing h with
  | nil => exact .quiet (UserSub.refl tok h) rfl rfl
  | cons m ms ih =>
    have hokm := hok m List.mem_cons_self
    have L := listenMsg_tok tok k i h m hokm
    have I := ih (listenMsg h m).h ((listenMsg_applied h hinv m hokm).inv hinv)
      (fun x hx => hok x (List.mem_cons_of_mem _ hx)) (hs.sub L.sub)
    have hle := L.le
    have hle' := I.le
    refine ⟨I.sub.trans L.sub, I.id.trans L.id, ?_, L.on.append (L.id ▸ I.on), ?_, ?_⟩ <;>
      simp only [catchUp, cbCount_append]
    -- after an invocation the entry is gone, so the rest of the batch cannot invoke it again
    · by_cases hc : cbCount tok (listenMsg h m).outs = 1
      · have := I.zero (L.gone hs hc); omega
      · omega
    · intro _ hc
      by_cases hc1 : cbCount tok (listenMsg h m).outs = 1
      · exact (L.gone hs hc1).sub I.sub
      · exact I.gone (hs.sub L.sub) (by omega)
    · intro hn
      have := L.zero hn
      have := I.zero (hn.sub L.sub)
      omega

theorem deliverOn_tok (tok : Nat) (chan : List Msg) (n : Nat) (h : Host) (hinv : Inv h.rooms)
    (hok : EmitsOk chan) (k : Str) (i : Nat) (hs : OneSlot tok h k i) :
    TokFacts tok k i h (deliverOn chan n h) :=
  { catchUp_tok tok h hinv _
    (hok.sub fun _ hm => List.mem_of_mem_drop (List.mem_of_mem_take hm)) k i hs with }

/-- what the hosts know about `tok`: nothing, except (possibly) host `v` in slot `(k, i)` -/
def TokAt (tok : Nat) (v : HostId) (k : Str) (i : Nat) (hosts : List Host) : Prop :=
  ∀ h ∈ hosts, (h.id = v → OneSlot tok h k i) ∧ (h.id ≠ v → NoTokH tok h)

theorem TokAt.oneSlot {tok : Nat} {v : HostId} {k : Str} {i : Nat} {hosts : List Host}
    (ht : TokAt tok v k i hosts) {h : Host} (hh : h ∈ hosts) : OneSlot tok h k i := by
  by_cases hv : h.id = v
  · exact (ht h hh).1 hv
  · exact ((ht h hh).2 hv).oneSlot k i

def TokNowhere (tok : Nat) (hosts : List Host) : Prop := ∀ h ∈ hosts, NoTokH tok h

theorem TokNowhere.tokAt {tok : Nat} {hosts : List Host} (h : TokNowhere tok hosts) (v : HostId) (k : Str)
    (i : Nat) : TokAt tok v k i hosts :=
  fun x hx => ⟨fun _ => (h x hx).oneSlot k i, fun _ => h x hx⟩

/-- What a step of the cluster (hosts `hosts` before, `hosts'` after, outputs `outs`) does to `tok`:
    it stays where it is known to be; it is invoked at most once, on `v`; once invoked it is
    stored nowhere; stored nowhere it is not invoked. -/
def TokKept (tok : Nat) (v : HostId) (k : Str) (i : Nat) (hosts hosts' : List Host) (outs : List Out) :
    Prop :=
  TokAt tok v k i hosts' ∧ cbCount tok outs ≤ 1 ∧ CbOn tok v outs ∧
  (cbCount tok outs = 1 → TokNowhere tok hosts') ∧
  (TokNowhere tok hosts → cbCount tok outs = 0 ∧ TokNowhere tok hosts')

theorem drainHosts_tok (tok : Nat) (v : HostId) (k : Str) (i : Nat) (chan : List Msg) (hosts : List Host)
    (hinv : ∀ h ∈ hosts, Inv h.rooms) (hcur : ∀ h ∈ hosts, h.cursor ≤ chan.length) (hok : EmitsOk chan)
    (hnd : (hosts.map Host.id).Nodup) (ht : TokAt tok v k i hosts) :
    TokKept tok v k i hosts (drainHosts chan hosts).1 (drainHosts chan hosts).2.1 := by
  induction hosts generalizing chan with
  | nil => exact ⟨nofun, Nat.zero_le 1, CbOn.of_count_zero rfl, nofun, fun _ => ⟨rfl, nofun⟩⟩
  | cons h hs ih =>
    simp only [List.map_cons, List.nodup_cons] at hnd
    have hinvh := hinv h List.mem_cons_self
    have e4 := (deliverOn_all chan h hinvh (hcur h List.mem_cons_self) hok).1.pubs
    obtain ⟨hth, ht'⟩ := List.forall_mem_cons.mp ht
    have hslot := ht.oneSlot List.mem_cons_self
    have D := deliverOn_tok tok chan chan.length h hinvh hok k i hslot
    have hcur' : ∀ x ∈ hs, x.cursor ≤ (chan ++ (deliverOn chan chan.length h).pubs).length := by
      intro x hx
      have := hcur x (List.mem_cons_of_mem _ hx)
      simp only [List.length_append]; omega
    obtain ⟨r1, r2, r3, r4, r5⟩ := ih (chan ++ (deliverOn chan chan.length h).pubs)
      (fun x hx => hinv x (List.mem_cons_of_mem _ hx)) hcur' (hok.append (EmitsOk.of_allCb e4)) hnd.2 ht'
    have hle := D.le
    simp only [drainHosts, TokKept, cbCount_append]
    refine ⟨List.forall_mem_cons.mpr
        ⟨⟨fun _ => hslot.sub D.sub, fun hne => (hth.2 (D.id ▸ hne)).sub D.sub⟩, r1⟩, ?_⟩
    suffices hmid : _ ∧ _ ∧ _ from ⟨hmid.1, hmid.2.1, hmid.2.2, fun hno => by
      obtain ⟨hnh, hno'⟩ := List.forall_mem_cons.mp hno
      have := D.zero hnh
      obtain ⟨t1, t2⟩ := r5 hno'
      exact ⟨by omega, List.forall_mem_cons.mpr ⟨hnh.sub D.sub, t2⟩⟩⟩
    by_cases hv : h.id = v
    · -- the head is host `v`; nobody in the tail is
      have htail : TokNowhere tok hs := fun x hx =>
        (ht' x hx).2 fun he => hnd.1 (by rw [hv, ← he]; exact List.mem_map_of_mem hx)
      obtain ⟨t1, t2⟩ := r5 htail
      exact ⟨by omega, (hv ▸ D.on).append r3, fun hc =>
        List.forall_mem_cons.mpr ⟨D.gone hslot (by omega), t2⟩⟩
    · have hnh := hth.2 hv
      have h0 := D.zero hnh
      exact ⟨by omega, (CbOn.of_count_zero h0).append r3, fun hc =>
        List.forall_mem_cons.mpr ⟨hnh.sub D.sub, r4 (by omega)⟩⟩

theorem on_tok {home : Sid → HostId} (tok : Nat) (v : HostId) (k : Str) (i : Nat) (c : Cluster)
    (hrun : Running home c) (hid : HostId) (f : Host → Res)
    (hf0 : ∀ h ∈ c.hosts, OneSlot tok h k i → TokFacts tok k i h (f h))
    (ht : TokAt tok v k i c.hosts) :
    TokKept tok v k i c.hosts (c.on hid f).1.hosts (c.on hid f).2 := by
  have hf : ∀ h ∈ c.hosts, TokFacts tok k i h (f h) := fun h hh => hf0 h hh (ht.oneSlot hh)
  have hhosts := on_hosts c f hid
  have hsubs : ∀ h' ∈ (c.on hid f).1.hosts, ∃ h ∈ c.hosts, UserSub tok h' h ∧ h'.id = h.id := by
    rw [hhosts, List.forall_mem_map]
    intro h hh
    refine ⟨h, hh, ?_⟩
    split
    · exact ⟨(hf h hh).sub, (hf h hh).id⟩
    · exact ⟨UserSub.refl tok h, rfl⟩
  have htokat : TokAt tok v k i (c.on hid f).1.hosts := by
    intro h' hh'
    obtain ⟨h, hh, hs, hi⟩ := hsubs h' hh'
    exact ⟨fun he => ((ht h hh).1 (hi ▸ he)).sub hs, fun hne => ((ht h hh).2 (hi ▸ hne)).sub hs⟩
  have hnowhere : TokNowhere tok c.hosts → TokNowhere tok (c.on hid f).1.hosts := by
    intro hno h' hh'
    obtain ⟨h, hh, hs, _⟩ := hsubs h' hh'
    exact (hno h hh).sub hs
  by_cases hex : hid ∈ c.hosts.map Host.id
  · obtain ⟨hv, hin, rfl⟩ := List.mem_map.mp hex
    have hout := (on_mem c f hrun.ids hin).2
    have F := hf hv hin
    rw [hout]
    refine ⟨htokat, F.le, ?_, ?_, fun hno => ⟨F.zero (hno hv hin), hnowhere hno⟩⟩
    · by_cases hvv : hv.id = v
      · exact hvv ▸ F.on
      · exact CbOn.of_count_zero (F.zero ((ht hv hin).2 hvv))
    · intro hc
      have hvv : hv.id = v := by
        by_cases hvv : hv.id = v
        · exact hvv
        · have := F.zero ((ht hv hin).2 hvv); omega
      have hgone := F.gone ((ht hv hin).1 hvv) hc
      intro h' hh'
      rw [hhosts] at hh'
      obtain ⟨h, hh, rfl⟩ := List.mem_map.mp hh'
      split
      · rename_i he
        have : h = hv := eq_of_map_eq hrun.ids hh hin he
        subst this; exact hgone
      · rename_i hne
        exact (ht h hh).2 (fun he => hne (he.trans hvv.symm))
  · have hout := (on_not_mem c f hex).2.2
    rw [hout]
    exact ⟨htokat, by simp [cbCount], CbOn.of_count_zero rfl, fun hc => by simp [cbCount] at hc,
      fun hno => ⟨rfl, hnowhere hno⟩⟩

/-- `emit` with a callback other than `tok` (or none) -/
theorem apiEmit_tokFacts (tok : Nat) (k : Str) (i : Nat) (h : Host) (srv : Bool) (ev : Str) (d : Data)
    (ns : Ns) (to : Target) (skip : Skip) (cb : Option Nat) (hok : Target.ok to) (hne : cb ≠ some tok) :
    TokFacts tok k i h (apiEmit h srv ev d ns to skip cb) ∧
    cbCount tok (apiEmit h srv ev d ns to skip cb).outs = 0 := by
  cases cb with
  | none =>
    rw [apiEmit_nocb h srv ev d ns to skip hok]
    have := emitLocal_userSub tok h ns to skip.toList (.str ev) d.pack none (by simp)
    exact ⟨TokFacts.quiet this.1 (emitLocal_rooms h ns to _ _ _ none).2.1 this.2, this.2⟩
  | some t =>
    have htt : t ≠ tok := fun he => hne (by rw [he])
    cases srv with
    | false =>
      have : apiEmit h false ev d ns to skip (some t) = { h := h, outs := [.raised .other] } := by
        simp [apiEmit]
      rw [this]
      exact ⟨TokFacts.quiet (UserSub.refl tok h) rfl rfl, rfl⟩
    | true =>
      by_cases hone : ∃ r, to = .one r
      · obtain ⟨r, rfl⟩ := hone
        rw [apiEmit_cb]
        have h1 := register_userSub tok h r (.user t) (by simpa using htt)
        have h2 := emitLocal_userSub tok (register h r (.user t)).1 ns (.one r) skip.toList (.str ev) d.pack
          (some (.relay (some h.id) r ns (h.ctr r + 1))) (by simp)
        have h3 := emitLocal_rooms (register h r (.user t)).1 ns (.one r) skip.toList (.str ev) d.pack
          (some (.relay (some h.id) r ns (h.ctr r + 1)))
        exact ⟨TokFacts.quiet (h2.1.trans h1) h3.2.1 h2.2, h2.2⟩
      · obtain ⟨er, hbad⟩ := apiEmit_bad h ev d ns to skip t (fun r hr => hone ⟨r, hr⟩)
        rw [hbad]
        exact ⟨TokFacts.quiet (UserSub.refl tok h) rfl rfl, rfl⟩

/-- the operation does not register the callback `tok` -/
def NotReg (tok : Nat) : Op → Prop
  | .emit _ _ _ _ _ _ cb => cb ≠ some tok
  | _ => True

section
variable {home : Sid → HostId}

theorem tok_step (tok : Nat) (v : HostId) (k : Str) (i : Nat) (c : Cluster) (hrun : Running home c)
    (op : Op) (hfine : OpFine home op) (hnr : NotReg tok op) (ht : TokAt tok v k i c.hosts) :
    TokKept tok v k i c.hosts (step c op).1.hosts (step c op).2 := by
  cases op with
  | connect | close =>
    exact on_tok tok v k i c hrun _ _ (fun h _ _ => .quiet (fun _ _ hx => hx) rfl rfl) ht
  | enter via ns sid room =>
    refine on_tok tok v k i c hrun via _ (fun h _ _ => ?_) ht
    unfold apiEnter; split <;> exact .quiet (fun _ _ hx => hx) rfl rfl
  | leave via ns sid room =>
    refine on_tok tok v k i c hrun via _ (fun h _ _ => ?_) ht
    unfold apiLeave; split <;> exact .quiet (fun _ _ hx => hx) rfl rfl
  | disconnect via ns sid =>
    refine on_tok tok v k i c hrun via _ (fun h _ _ => ?_) ht
    unfold apiDisconnect; split
    · have := localDisconnect_tok tok h sid ns
      exact TokFacts.quiet this.1 (localDisconnect_obs h sid ns).1 this.2
    · exact .quiet (fun _ _ hx => hx) rfl rfl
  | emit via ev d ns to skip cb =>
    cases via with
    | some w =>
      exact on_tok tok v k i c hrun w _ (fun h _ _ => (apiEmit_tokFacts tok k i h true ev d ns to skip cb hfine hnr).1) ht
    | none =>
      have h0 := (apiEmit_tokFacts tok k i c.wo false ev d ns to skip cb hfine hnr).2
      have hh : (step c (.emit none ev d ns to skip cb)).1.hosts = c.hosts := rfl
      have ho : (step c (.emit none ev d ns to skip cb)).2 = (apiEmit c.wo false ev d ns to skip cb).outs := rfl
      rw [hh, ho]
      exact ⟨ht, by omega, CbOn.of_count_zero h0, fun hc => by omega, fun hno => ⟨h0, hno⟩⟩
  | ack ns sid n args =>
    rcases step_ack c ns sid n args with hr | ⟨hv, _, j, hr⟩ <;> rw [hr]
    · exact ⟨ht, Nat.zero_le 1, CbOn.of_count_zero rfl, fun hc => (nomatch hc), fun hno => ⟨rfl, hno⟩⟩
    · exact on_tok tok v k i c hrun hv.id _
        (fun h _ _ => apiAck_eq h sid j args ▸ trigger_tok tok k i chainFuel h sid j (some args)) ht
  | deliver hid n =>
    refine on_tok tok v k i c hrun hid _ (fun h hh hs => ?_) ht
    exact deliverOn_tok tok c.chan n h (hrun.inv h hh) hrun.chanOk k i hs
  | drain =>
    exact drainHosts_tok tok v k i c.chan c.hosts hrun.inv hrun.cur hrun.chanOk hrun.ids ht

end

/-- the emit that carries `tok` stores it in one slot of the issuing host, and invokes nothing -/
theorem tok_register {home : Sid → HostId} (tok : Nat) (c : Cluster) (hrun : Running home c) (w : HostId)
    (ev : Str) (d : Data) (ns : Ns) (to : Target) (skip : Skip) (hno : TokNowhere tok c.hosts) :
    ∃ k i, TokAt tok w k i (step c (.emit (some w) ev d ns to skip (some tok))).1.hosts ∧
      cbCount tok (step c (.emit (some w) ev d ns to skip (some tok))).2 = 0 := by
  -- per host: the result and its outputs
  have key : ∀ h ∈ c.hosts, ∃ k i,
      OneSlot tok (apiEmit h true ev d ns to skip (some tok)).h k i ∧
      (apiEmit h true ev d ns to skip (some tok)).h.id = h.id ∧
      cbCount tok (apiEmit h true ev d ns to skip (some tok)).outs = 0 := by
    intro h hh
    by_cases hone : ∃ r, to = .one r
    · obtain ⟨r, rfl⟩ := hone
      refine ⟨r, h.ctr r + 1, ?_⟩
      rw [apiEmit_cb]
      have h2 := emitLocal_userSub tok (register h r (.user tok)).1 ns (.one r) skip.toList (.str ev) d.pack
        (some (.relay (some h.id) r ns (h.ctr r + 1))) (by simp)
      have h3 := emitLocal_rooms (register h r (.user tok)).1 ns (.one r) skip.toList (.str ev) d.pack
        (some (.relay (some h.id) r ns (h.ctr r + 1)))
      refine ⟨?_, h3.2.1, h2.2⟩
      intro k' i' hx
      have := h2.1 k' i' hx
      simp only [register] at this
      split at this
      · rename_i hc; exact hc
      · exact absurd this (hno h hh k' i')
    · obtain ⟨er, hbad⟩ := apiEmit_bad h ev d ns to skip tok (fun r hr => hone ⟨r, hr⟩)
      rw [hbad]
      exact ⟨[], 0, (hno h hh).oneSlot _ _, rfl, rfl⟩
  by_cases hex : w ∈ c.hosts.map Host.id
  · obtain ⟨hv, hin, rfl⟩ := List.mem_map.mp hex
    obtain ⟨k, i, hk1, hk2, hk3⟩ := key hv hin
    refine ⟨k, i, fun h' hh' => ?_, (congrArg (cbCount tok) (on_mem c _ hrun.ids hin).2).trans hk3⟩
    obtain ⟨h, hh, rfl⟩ := List.mem_map.mp hh'
    split
    · rename_i he
      have : h = hv := eq_of_map_eq hrun.ids hh hin he
      subst this
      exact ⟨fun _ => hk1, fun hne => absurd hk2 hne⟩
    · rename_i hne
      exact ⟨fun he => absurd he hne, fun _ => hno h hh⟩
  · refine ⟨[], 0, fun h' hh' => ?_, congrArg (cbCount tok) (on_not_mem c _ hex).2.2⟩
    obtain ⟨h, hh, rfl⟩ := List.mem_map.mp hh'
    have hne : h.id ≠ w := fun he => hex (he ▸ List.mem_map_of_mem hh)
    rw [if_neg hne]
    exact ⟨fun he => absurd he hne, fun _ => hno h hh⟩

end Sio.PubSub
