/-
  Helper lemmas for K10 (admin instrumentation): the algebra of `pyEq`, the registry overlay, and
  what an admin CONNECT is (`handleConnect_gate`).
-/
import Sio.Model.Admin
import Sio.Lemmas.Rooms
import Sio.Lemmas.ServerEvent
namespace Sio.Admin
open Sio.Rooms (Ns Sid Eio)

def keys (kvs : List (Str × J)) : List Str := kvs.map (·.1)

theorem lookup_some_mem {k : Str} {w : J} : ∀ {b : List (Str × J)}, lookup k b = some w → (k, w) ∈ b
  | [], h => by simp [lookup] at h
  | (k', v) :: rest, h => by
    simp only [lookup] at h
    split at h
    · next hk => simp at h; subst hk; subst h; simp
    · exact List.mem_cons_of_mem _ (lookup_some_mem h)

theorem lookup_isSome_iff {k : Str} : ∀ {b : List (Str × J)}, (lookup k b).isSome = true ↔ k ∈ keys b
  | [] => by simp [lookup, keys]
  | (k', v) :: rest => by
    simp only [lookup, keys, List.map_cons, List.mem_cons]
    split
    · next hk => simp [hk]
    · next hk =>
      have ih := lookup_isSome_iff (k := k) (b := rest)
      simp only [keys] at ih
      rw [ih]
      exact (or_iff_right fun h => hk h.symm).symm

theorem lookup_of_mem_nodup {k : Str} {v : J} :
    ∀ {b : List (Str × J)}, (keys b).Nodup → (k, v) ∈ b → lookup k b = some v
  | [], _, h => by simp at h
  | (k', v') :: rest, nd, h => by
    simp only [keys, List.map_cons, List.nodup_cons] at nd
    simp only [lookup]
    rcases List.mem_cons.mp h with h | h
    · cases h; simp
    · split
      · next hk =>
        subst hk
        exact absurd (List.mem_map_of_mem (f := (·.1)) h) nd.1
      · exact lookup_of_mem_nodup (by simpa [keys] using nd.2) h

theorem nodup_subset_length {α : Type} [DecidableEq α] :
    ∀ (xs ys : List α), xs.Nodup → (∀ x ∈ xs, x ∈ ys) → xs.length ≤ ys.length :=
  fun _ _ nd sub => nd.length_le_of_subset fun x => sub x

theorem nodup_subset_surj {α : Type} [DecidableEq α] :
    ∀ (xs ys : List α), xs.Nodup → (∀ x ∈ xs, x ∈ ys) → ys.length ≤ xs.length → ∀ y ∈ ys, y ∈ xs := by
  intro xs ys nd sub hl y hy
  refine Decidable.byContradiction fun hn => ?_
  have := nodup_subset_length xs (ys.erase y) nd fun x hx =>
    (List.mem_erase_of_ne fun e : x = y => hn (e ▸ hx)).mpr (sub x hx)
  have := List.length_erase_of_mem hy
  have := List.length_pos_of_mem hy
  omega

theorem pyEqO_iff (b : List (Str × J)) : ∀ (a : List (Str × J)),
    pyEqO a b = true ↔ ∀ p ∈ a, ∃ w, lookup p.1 b = some w ∧ pyEq p.2 w = true
  | [] => by simp [pyEqO]
  | (k, v) :: rest => by
    simp only [pyEqO, Bool.and_eq_true, List.mem_cons, forall_eq_or_imp, pyEqO_iff b rest]
    constructor
    · rintro ⟨h1, h2⟩
      refine ⟨?_, h2⟩
      cases hl : lookup k b with
      | none => simp [hl] at h1
      | some w => exact ⟨w, rfl, by simpa [hl] using h1⟩
    · rintro ⟨⟨w, hl, hw⟩, h2⟩
      exact ⟨by simp [hl, hw], h2⟩

/-- Every key of the left dict is a key of the right one. -/
theorem pyEqO_keys_subset {a b : List (Str × J)} (h : pyEqO a b = true) :
    ∀ k ∈ keys a, k ∈ keys b := by
  intro k hk
  simp only [keys, List.mem_map] at hk
  obtain ⟨p, hp, rfl⟩ := hk
  obtain ⟨w, hl, _⟩ := (pyEqO_iff b a).mp h p hp
  exact lookup_isSome_iff.mp (by simp [hl])

theorem pyEq_obj_obj (a b : List (Str × J)) :
    pyEq (.obj a) (.obj b) = (a.length == b.length && pyEqO a b) := by
  simp [pyEq]

theorem pyEq_arr_arr (a b : List J) : pyEq (.arr a) (.arr b) = pyEqL a b := by
  simp [pyEq]

/-- A dict is `==` only to dicts. -/
theorem pyEq_obj_left {a : List (Str × J)} {b : J} (h : pyEq (.obj a) b = true) :
    ∃ b', b = .obj b' := by
  cases b <;> simp [pyEq] at h
  exact ⟨_, rfl⟩

theorem pyEq_obj_right {a : J} {b : List (Str × J)} (h : pyEq a (.obj b) = true) :
    ∃ a', a = .obj a' := by
  cases a <;> simp [pyEq, scalarEq] at h
  exact ⟨_, rfl⟩

theorem pyEq_arr_right {a : J} {b : List J} (h : pyEq a (.arr b) = true) :
    ∃ a', a = .arr a' := by
  cases a <;> simp [pyEq, scalarEq] at h
  exact ⟨_, rfl⟩

theorem fltEq_comm (a b : Str) : fltEq a b = fltEq b a := by
  by_cases h : a = b
  · subst h; rfl
  · have h' : ¬ b = a := fun e => h e.symm
    simp only [fltEq, Bool.or_comm (isNan a), Bool.and_comm (isZeroLit a)]
    split
    · rfl
    · split
      · rfl
      · exact BEq.comm

theorem scalarEq_comm (a b : J) : scalarEq a b = scalarEq b a := by
  -- each pair of constructors: the same test on both sides, up to the symmetry of `==` and `fltEq`
  cases a <;> cases b <;> simp only [scalarEq, BEq.comm, fltEq_comm]

/-- left operand not a container: `pyEq` is `scalarEq` -/
theorem pyEq_scalar_left {a : J} (ha : ∀ xs, a ≠ .arr xs) (ho : ∀ kvs, a ≠ .obj kvs) (b : J) :
    pyEq a b = scalarEq a b := by
  cases a with
  | arr xs => exact absurd rfl (ha xs)
  | obj kvs => exact absurd rfl (ho kvs)
  | null | bool | int | flt | str | bin => simp [pyEq]

theorem scalarEq_arr_right (a : J) (b : List J) : scalarEq a (.arr b) = false := by
  cases a <;> simp [scalarEq]

theorem scalarEq_obj_right (a : J) (b : List (Str × J)) : scalarEq a (.obj b) = false := by
  cases a <;> simp [scalarEq]

theorem scalarEq_arr_left (a : List J) (b : J) : scalarEq (.arr a) b = false := by
  cases b <;> simp [scalarEq]

theorem scalarEq_obj_left (a : List (Str × J)) (b : J) : scalarEq (.obj a) b = false := by
  cases b <;> simp [scalarEq]

/-- right operand not a container: `pyEq` is `scalarEq` -/
theorem pyEq_scalar_right {b : J} (hb : ∀ xs, b ≠ .arr xs) (ho : ∀ kvs, b ≠ .obj kvs) (a : J) :
    pyEq a b = scalarEq a b := by
  cases a with
  | arr xs => cases b <;> first | rfl | exact absurd rfl (hb _)
  | obj kvs => cases b <;> first | rfl | exact absurd rfl (ho _)
  | _ => exact pyEq_scalar_left (by nofun) (by nofun) b

/-- `==` with a scalar operand is symmetric because `scalarEq` is -/
theorem pyEq_comm_of_scalar {a : J} (ha : ∀ xs, a ≠ .arr xs) (ho : ∀ kvs, a ≠ .obj kvs) (b : J) :
    pyEq a b = pyEq b a := by
  rw [pyEq_scalar_left ha ho, pyEq_scalar_right ha ho, scalarEq_comm]

/-- What `json.loads` produces and what a credentials dict is made of: every dict has pairwise
    distinct keys (a Python dict cannot have anything else; the association-list representation
    can) and no float is NaN (`nan != nan`, the one JSON-decodable value on which `==` is not
    reflexive). -/
inductive Dom : J → Prop
  | null : Dom .null
  | bool (b : Bool) : Dom (.bool b)
  | int (i : Int) : Dom (.int i)
  | flt (l : Str) (h : isNan l = false) : Dom (.flt l)
  | str (s : Str) : Dom (.str s)
  | bin (b : Bytes) : Dom (.bin b)
  | arr (xs : List J) (h : ∀ x ∈ xs, Dom x) : Dom (.arr xs)
  | obj (kvs : List (Str × J)) (nd : (keys kvs).Nodup) (h : ∀ p ∈ kvs, Dom p.2) : Dom (.obj kvs)

theorem Dom.arr_inv {xs : List J} (h : Dom (.arr xs)) : ∀ x ∈ xs, Dom x := by
  cases h; assumption

theorem Dom.obj_nodup {kvs : List (Str × J)} (h : Dom (.obj kvs)) : (keys kvs).Nodup := by
  cases h; assumption

theorem Dom.obj_inv {kvs : List (Str × J)} (h : Dom (.obj kvs)) : ∀ p ∈ kvs, Dom p.2 := by
  cases h; assumption

theorem Dom.flt_inv {l : Str} (h : Dom (.flt l)) : isNan l = false := by
  cases h; assumption

mutual
  theorem pyEq_refl : ∀ (a : J), Dom a → pyEq a a = true
    | .null, _ | .bool _, _ | .int _, _ | .str _, _ | .bin _, _ => by simp [pyEq, scalarEq]
    | .flt l, h => by simp [pyEq, scalarEq, fltEq, h.flt_inv]
    | .arr xs, h => by rw [pyEq_arr_arr]; exact pyEqL_refl xs h.arr_inv
    | .obj kvs, h => by
      rw [pyEq_obj_obj]
      have := pyEqO_refl kvs kvs (fun p hp => lookup_of_mem_nodup h.obj_nodup hp) h.obj_inv
      simp [this]
  theorem pyEqL_refl : ∀ (xs : List J), (∀ x ∈ xs, Dom x) → pyEqL xs xs = true
    | [], _ => by simp [pyEqL]
    | x :: xs, h => by
      simp [pyEqL, pyEq_refl x (h x (by simp)), pyEqL_refl xs (fun y hy => h y (by simp [hy]))]
  theorem pyEqO_refl : ∀ (rest b : List (Str × J)), (∀ p ∈ rest, lookup p.1 b = some p.2) →
      (∀ p ∈ rest, Dom p.2) → pyEqO rest b = true
    | [], _, _, _ => by simp [pyEqO]
    | (k, v) :: rest, b, hl, hd => by
      have h1 : lookup k b = some v := hl (k, v) (by simp)
      simp [pyEqO, h1, pyEq_refl v (hd (k, v) (by simp)),
        pyEqO_refl rest b (fun p hp => hl p (by simp [hp])) (fun p hp => hd p (by simp [hp]))]
end

/-- one direction of dict symmetry, from symmetry on the values -/
theorem pyEqO_flip {a b : List (Str × J)} (nda : (keys a).Nodup) (ndb : (keys b).Nodup)
    (hl : a.length = b.length)
    (sym : ∀ p ∈ a, ∀ q ∈ b, pyEq p.2 q.2 = true → pyEq q.2 p.2 = true)
    (h : pyEqO a b = true) : pyEqO b a = true := by
  rw [pyEqO_iff]
  intro q hq
  have hsub := pyEqO_keys_subset h
  have hlen : (keys b).length ≤ (keys a).length := by simp [keys, hl]
  have hk : q.1 ∈ keys a :=
    nodup_subset_surj (keys a) (keys b) nda hsub hlen q.1 (List.mem_map_of_mem (f := (·.1)) hq)
  have hs := lookup_isSome_iff.mpr hk
  cases hv : lookup q.1 a with
  | none => simp [hv] at hs
  | some v =>
    refine ⟨v, rfl, ?_⟩
    have hmem : (q.1, v) ∈ a := lookup_some_mem hv
    obtain ⟨w, hw, hvw⟩ := (pyEqO_iff b a).mp h (q.1, v) hmem
    have : lookup q.1 b = some q.2 := lookup_of_mem_nodup ndb (by simpa using hq)
    simp only [this, Option.some.injEq] at hw
    subst hw
    exact sym (q.1, v) hmem q hq hvw

mutual
  theorem pyEq_symm : ∀ (a b : J), Dom a → Dom b → pyEq a b = pyEq b a
    | .arr xs, b, ha, hb => by
      cases b with
      | arr ys => rw [pyEq_arr_arr, pyEq_arr_arr]; exact pyEqL_symm xs ys ha.arr_inv hb.arr_inv
      | obj kvs => rfl
      | _ => exact (pyEq_comm_of_scalar (by nofun) (by nofun) _).symm
    | .obj kvs, b, ha, hb => by
      cases b with
      | obj kvs' =>
        rw [pyEq_obj_obj, pyEq_obj_obj]
        by_cases hl : kvs.length = kvs'.length
        · have ih := pyEqO_symm kvs
          have e : pyEqO kvs kvs' = pyEqO kvs' kvs := by
            apply Bool.eq_iff_iff.mpr
            constructor
            · exact pyEqO_flip ha.obj_nodup hb.obj_nodup hl
                (fun p hp q hq hpq => by
                  rw [← ih p hp q.2 (ha.obj_inv p hp) (hb.obj_inv q hq)]; exact hpq)
            · exact pyEqO_flip hb.obj_nodup ha.obj_nodup hl.symm
                (fun q hq p hp hqp => by
                  rw [ih p hp q.2 (ha.obj_inv p hp) (hb.obj_inv q hq)]; exact hqp)
          rw [hl, e]
        · rw [beq_eq_false_iff_ne.mpr hl, beq_eq_false_iff_ne.mpr (Ne.symm hl)]; rfl
      | arr ys => rfl
      | _ => exact (pyEq_comm_of_scalar (by nofun) (by nofun) _).symm
    | .null, b, _, _ | .bool _, b, _, _ | .int _, b, _, _ | .flt _, b, _, _ | .str _, b, _, _
    | .bin _, b, _, _ => pyEq_comm_of_scalar (by nofun) (by nofun) b
  theorem pyEqL_symm : ∀ (xs ys : List J), (∀ x ∈ xs, Dom x) → (∀ y ∈ ys, Dom y) →
      pyEqL xs ys = pyEqL ys xs
    | [], [], _, _ => rfl
    | [], _ :: _, _, _ => by simp [pyEqL]
    | _ :: _, [], _, _ => by simp [pyEqL]
    | x :: xs, y :: ys, hx, hy => by
      simp only [pyEqL]
      rw [pyEq_symm x y (hx x (by simp)) (hy y (by simp)),
        pyEqL_symm xs ys (fun z hz => hx z (by simp [hz])) (fun z hz => hy z (by simp [hz]))]
  theorem pyEqO_symm : ∀ (kvs : List (Str × J)) (p : Str × J), p ∈ kvs → ∀ (w : J),
      Dom p.2 → Dom w → pyEq p.2 w = pyEq w p.2
    | [], _, hp, _, _, _ => by simp at hp
    | (k, v) :: rest, p, hp, w, h1, h2 => by
      rcases List.mem_cons.mp hp with e | hp'
      · subst e; exact pyEq_symm v w h1 h2
      · exact pyEqO_symm rest p hp' w h1 h2
end

open Sio.Server

/-- The application registered nothing on the admin namespace and no catch-all *namespace*
    (`'*'`) handlers. -/
structure AppClear (app : Registry) (adminNs : Ns) : Prop where
  fnNs : app.fnNs adminNs = false
  fn : ∀ e, app.fn adminNs e = false
  cls : app.cls adminNs = false
  starFn : app.fnNs star = false
  starCls : app.cls star = false

theorem registered_ro {mode : Str} {ro : Bool} (h : ro = true ∨ isDev mode = false) :
    registered mode ro = ["connect".toList] := by
  rcases h with h | h <;> simp [registered, h]

/-- an event for which `instrument()` registered no handler finds nobody on the admin namespace
    (the application having none there, and no catch-all namespace handlers) -/
theorem resolve_unregistered {app : Registry} {adminNs : Ns} {mode : Str} {ro : Bool}
    (hc : AppClear app adminNs) (hns : adminNs ≠ star) {ev : Str}
    (hev : ev ∉ registered mode ro) (args : List J) :
    resolve (instrumentReg app adminNs mode ro) adminNs (.str ev) args = .ok .notHandled := by
  have hstar : (star == adminNs) = false := beq_eq_false_iff_ne.mpr fun e => hns e.symm
  have hrs : star ∉ registered mode ro := by unfold registered; split <;> decide
  simp [resolve, instrumentReg, hashable, inDict, evStr, hc.fn, hc.starFn, hc.cls, hc.starCls,
    hev, hrs, hstar, hns]

theorem not_registered_ro {mode : Str} {ro : Bool} (hro : ro = true ∨ isDev mode = false) {ev : Str}
    (hev : ev ≠ "connect".toList) : ev ∉ registered mode ro := by
  rw [registered_ro hro]
  simpa using hev

theorem resolve_connect (app : Registry) {adminNs : Ns} (hadm : adminNs ≠ star) (mode : Str)
    (ro : Bool) (args : List J) :
    resolve (instrumentReg app adminNs mode ro) adminNs (.str "connect".toList) args =
      .ok (.fn (.fn adminNs "connect".toList) args) := by
  generalize hc : "connect".toList = c
  have hstar : (c == star) = false := by subst hc; decide
  have hfn : (instrumentReg app adminNs mode ro).fn adminNs c = true := by
    subst hc; simp [instrumentReg, registered]
  have hns : (instrumentReg app adminNs mode ro).fnNs adminNs = true := by
    simp [instrumentReg]
  have hne : (adminNs != star) = true := by simpa using hadm
  simp only [resolve, evStr, hashable, inDict, hstar, hfn, hns, hne, Bool.not_true, Bool.not_false,
    Bool.and_self, if_true, Bool.false_eq_true, if_false, Option.getD_some]

section connect
variable {app : Registry} {adminNs : Ns} {mode : Str} {ro : Bool} {cfg : Cfg}

/-- on an opened transport, an admin CONNECT that the manager registers runs `admin_connect`,
    whose outcome decides -/
theorem handleConnect_gate (hreg : cfg.reg = instrumentReg app adminNs mode ro)
    (hadm : adminNs ≠ star) {s : Srv} {t : Eio} (payload : Option J)
    (henv : s.environ.contains t = true) {rooms' : Rooms.St}
    (hc : (if isServed cfg adminNs then
      Rooms.connect s.rooms adminNs t (sidName s.nextSid) else none) = some rooms') :
    handleConnect cfg s t (some adminNs) payload =
      connectEnd cfg.alwaysConnect { connected s rooms' with nConn := s.nConn + 1 } t adminNs
        (sidName s.nextSid)
        ((if cfg.alwaysConnect then sendTo s (some t) (pktConnect adminNs (sidName s.nextSid))
            else []) ++
          (connectCall (cfg.script.onConnect s.nConn)
            (.fn (.fn adminNs "connect".toList) (.str (sidName s.nextSid) :: authArgs payload))).1)
        (connectCall (cfg.script.onConnect s.nConn)
          (.fn (.fn adminNs "connect".toList) (.str (sidName s.nextSid) :: authArgs payload))).2.2 := by
  rw [handleConnect_eq]
  dsimp only [Option.getD_some]
  rw [hc]
  dsimp only
  rw [henv, hreg, resolve_connect _ hadm]
  cases cfg.script.onConnect s.nConn <;> rfl

end connect

def isAdminOut (adminNs : Ns) : Out → Bool
  | .send _ p => p.nsp == some adminNs
  | _ => false

/-- what application clients and the application itself can observe of a list of outputs -/
def observeApp (adminNs : Ns) (outs : List Out) : List Out :=
  outs.filter (fun o => !isAdminOut adminNs o)

/-- an emit without a callback sends one and the same EVENT packet of `ns`, to the recipients -/
theorem emit_nocb_outs {s : Srv} {ev : Str} {d : Data} {ns : Ns} {to : Rooms.Target}
    {skip : List Sid} {o : Out} (h : o ∈ (emit s ev d ns to skip none).2) :
    ∃ t, o = .send t (mkOut EVENT ns none (J.str ev :: d.pack)) := by
  unfold emit at h
  split at h
  · cases h
  · obtain ⟨r, _, ho⟩ := List.mem_flatMap.mp h
    obtain ⟨t, ht, _, rfl⟩ := mem_sendTo ho
    exact ⟨t, rfl⟩

end Sio.Admin
