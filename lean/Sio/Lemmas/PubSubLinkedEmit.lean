/-
  An emit with a callback to a personal room keeps `Linked`: the issuing host registers the user
  callback, the client's host the relay that points at it, the reference server the user callback,
  and the client is asked one new id on either side.  Then every operation: `linked_step`.
-/
import Sio.Lemmas.PubSubLinkedCb
namespace Sio.PubSub
open Sio.Rooms

section ops
variable {home : Sid → HostId} {ehome : Eio → HostId} {c : Cluster} {s : Single}

/-- `Manager.emit` with callback `cb` to the personal room `r`: an id is registered where the
    addressee is a recipient -/
def relayIf (r : Room) (ns : Ns) (skip : List Sid) (cb : Cb) (h : Host) : Host :=
  if r ∈ (recipients h.rooms ns (.one r) skip).map Prod.fst then (register h r cb).1 else h

/-- host `h` after `emit(…, to=r, callback=tok)` through the host called `v` (which hands out id `i`
    for the user callback) and the drain: the user callback on `v`, the relay wherever `r` is a
    recipient -/
def cbHost (v : HostId) (i : Nat) (r : Room) (ns : Ns) (skip : List Sid) (tok : Nat) (h : Host) : Host :=
  if r ∈ (recipients h.rooms ns (.one r) skip).map Prod.fst then
    (register (if h.id = v then (register h r (.user tok)).1 else h) r (.relay (some v) r ns i)).1
  else if h.id = v then (register h r (.user tok)).1 else h

theorem cbHost_only (v : HostId) (i : Nat) (r : Room) (ns : Ns) (skip : List Sid) (tok : Nat) (h : Host) :
    OnlyKey r h (cbHost v i r ns skip tok h) :=
  (OnlyKey.registerIf (h.id = v) r (.user tok) h).trans (OnlyKey.registerIf _ r _ _)

theorem emitLocal_relayIf (h : Host) (hinv : Inv h.rooms) (ns : Ns) (r : Room) (skip : List Sid)
    (ev : J) (args : List J) (cb : Cb)
    (hpers : ∀ e ∈ h.rooms, e.ns = ns → e.room = some r → e.sid = r) :
    (emitLocal h ns (.one r) skip ev args (some cb)).1 = relayIf r ns skip cb h ∧
    cbEvents (emitLocal h ns (.one r) skip ev args (some cb)).2 = [] ∧
    askedIn (emitLocal h ns (.one r) skip ev args (some cb)).2 =
      if r ∈ (recipients h.rooms ns (.one r) skip).map Prod.fst then [(r, h.ctr r + 1)] else [] := by
  unfold relayIf emitLocal
  split
  · rename_i hn
    rw [recipients_nil_of_not_hasNs (by simpa using hn)]
    exact ⟨rfl, rfl, rfl⟩
  · rcases recipients_personal hinv ns r skip hpers with he | ⟨eio, he⟩ <;> rw [he]
    · exact ⟨rfl, rfl, rfl⟩
    · simp only [List.map_cons, List.map_nil, List.mem_singleton, if_true]
      exact ⟨rfl, rfl, rfl⟩

theorem single_emit_cb (s : Single) (hinv : Inv s.srv.rooms) (via : Option HostId) (ev : Str) (d : Data)
    (ns : Ns) (r : Room) (skip : Skip) (tok : Nat)
    (hpers : ∀ e ∈ s.srv.rooms, e.ns = ns → e.room = some r → e.sid = r) :
    (s.step (.emit via ev d ns (.one r) skip (some tok))).1.srv = relayIf r ns skip.toList (.user tok) s.srv ∧
    cbEvents (s.step (.emit via ev d ns (.one r) skip (some tok))).2 = [] ∧
    askedIn (s.step (.emit via ev d ns (.one r) skip (some tok))).2 =
      if r ∈ (recipients s.srv.rooms ns (.one r) skip.toList).map Prod.fst then [(r, s.srv.ctr r + 1)] else [] :=
  emitLocal_relayIf s.srv hinv ns r skip.toList (.str ev) d.pack (.user tok) hpers

theorem askedIn_flatMap {α : Type} (l : List α) (F : α → List Out) :
    askedIn (l.flatMap F) = l.flatMap (fun a => askedIn (F a)) := by
  induction l with
  | nil => rfl
  | cons a l ih => rw [List.flatMap_cons, askedIn_append, ih, List.flatMap_cons]

theorem on_emit_cb (hnd : (c.hosts.map Host.id).Nodup)
    (hdr : ∀ h ∈ c.hosts, h.cursor = c.chan.length) (hinv : ∀ h ∈ c.hosts, Inv h.rooms)
    (hv : Host) (hin : hv ∈ c.hosts) (ev : Str) (d : Data) (ns : Ns) (r : Room) (skip : Skip) (tok : Nat)
    (hpers : ∀ h ∈ c.hosts, ∀ e ∈ h.rooms, e.ns = ns → e.room = some r → e.sid = r) (f : Host → Res)
    (hf : f hv = apiEmit hv true ev d ns (.one r) skip (some tok)) :
    Moves c (cbHost hv.id (hv.ctr r + 1) r ns skip.toList tok)
      (onSync c hv f).2
      (onSync c hv f).1 ∧
    cbEvents (onSync c hv f).2 = [] ∧
    askedIn (onSync c hv f).2 =
      (if r ∈ (recipients hv.rooms ns (.one r) skip.toList).map Prod.fst then [(r, hv.ctr r + 2)] else []) ++
      c.hosts.flatMap (fun h => if h.id = hv.id then [] else
        if r ∈ (recipients h.rooms ns (.one r) skip.toList).map Prod.fst then [(r, h.ctr r + 1)] else []) := by
  have hf := hf.trans (apiEmit_cb hv ev d ns r skip tok)
  -- the issuing host: the user callback first, then `Manager.emit` with the relay
  have hv1 := emitLocal_relayIf (register hv r (.user tok)).1 (hinv hv hin) ns r skip.toList (.str ev) d.pack
    (.relay (some hv.id) r ns (hv.ctr r + 1)) (hpers hv hin)
  -- what every host does with the entry: the issuing host skips it, the others run `Manager.emit`
  have hres : ∀ h ∈ c.hosts,
      (synced hv f h).h =
        cbHost hv.id (hv.ctr r + 1) r ns skip.toList tok h ∧
      (synced hv f h).pubs = [] ∧
      cbEvents (synced hv f h).outs = [] ∧
      askedIn (synced hv f h).outs =
        (if h.id = hv.id then [] else
          if r ∈ (recipients h.rooms ns (.one r) skip.toList).map Prod.fst then [(r, h.ctr r + 1)] else []) := by
    refine hosts_cases hnd hin ?_ (fun h hh hid => ?_)
    · rw [synced_self_own (m := .emit hv.id ev d ns (.one r) skip (some (r, ns, hv.ctr r + 1)))
        (by simp only [hf]) (by simp only [hf]; exact (emitLocal_rooms _ _ _ _ _ _ _).2.1) rfl rfl]
      refine ⟨?_, rfl, rfl, (if_pos rfl).symm⟩
      simp only [hf]
      rw [hv1.1, cbHost, if_pos rfl]; rfl
    · have he := emitLocal_relayIf h (hinv h hh) ns r skip.toList (.str ev) d.pack
        (.relay (some hv.id) r ns (hv.ctr r + 1)) (hpers h hh)
      simp only [synced_other _ hid, hf, catchUp, if_neg hid]
      rw [listenMsg_emit_eq h hv.id ev d ns (.one r) skip _ (fun e => hid e.symm) trivial]
      exact ⟨by rw [cbHost, if_neg hid]; exact he.1, rfl, (congrArg cbEvents (List.append_nil _)).trans he.2.1,
        (congrArg askedIn (List.append_nil _)).trans he.2.2⟩
  obtain ⟨hm, ho⟩ := on_moves c hnd hdr hv hin f
    (by simp only [hf]; exact (emitLocal_rooms _ _ _ _ _ _ _).2.2) (fun h hh => (hres h hh).2.1)
  refine ⟨hm.congr (fun h hh => (hres h hh).1), ?_, ?_⟩
  · simp only [ho, cbEvents_append, hf, hv1.2.1, List.nil_append]
    exact cbEvents_flatMap_nil _ _ (fun h hh => (hres h hh).2.2.1)
  · simp only [ho, askedIn_append, askedIn_flatMap, hf, hv1.2.2]
    refine congr (congrArg HAppend.hAppend ?_) (flatMap_congr' (fun h hh => (hres h hh).2.2.2))
    simp only [register_ctr, if_true]
    rfl

theorem linked_emit_cb (hs : Sim home ehome c s) (hl : Linked home c s) (via : HostId) (ev : Str)
    (d : Data) (ns : Ns) (to : Target) (skip : Skip) (tok : Nat)
    (hop : OpOk home ehome (c.views.map Prod.fst) (.emit (some via) ev d ns to skip (some tok)))
    (hh : HistOpOk s (.emit (some via) ev d ns to skip (some tok))) :
    StepGoal home c s (.emit (some via) ev d ns to skip (some tok)) := by
  obtain ⟨r, rfl⟩ := (hop.2.2 rfl).2
  obtain ⟨hv, hin, rfl⟩ := exists_host_of_id (hop.1 via rfl)
  have hpersS := hh rfl r rfl
  have hseen := (sim_step hs _ hop).2.1
  obtain ⟨hm, e4, e6⟩ := on_emit_cb hs.ids hl.drained hs.hinv hv hin ev d ns r skip tok
    (fun h hh' e he => hpersS e ((hs.union e).mpr ⟨h.view, view_mem hh', he⟩))
    (fun h => apiEmit h true ev d ns (.one r) skip (some tok)) rfl
  obtain ⟨hsrv, hscb, hsask⟩ := single_emit_cb s hs.sinv (some hv.id) ev d ns r skip tok hpersS
  have hG := cbHost_only hv.id (hv.ctr r + 1) r ns skip.toList tok
  have hSf : OnlyKey r s.srv (relayIf r ns skip.toList (.user tok) s.srv) := OnlyKey.registerIf _ r _ _
  have hur := union_recipients hs.placed hs.union hs.sinv ns (.one r) skip.toList r
  refine ⟨?_, e4.trans hscb.symm, Or.inl hscb⟩
  show Linked home (onSync c hv _).1 _
  refine linked_keyed hs hl _ hh hm (fun h _ => (hG h).id) hseen (· = r)
    (fun h _ => (hG h).other)
    (fun y hy => by rw [hsrv]; exact hSf.other y hy)
    (fun y hy => by
      rw [hsask]
      split
      · exact askedOf_eq_nil (List.forall_mem_singleton.mpr (Ne.symm hy))
      · rfl)
    (fun h hh' => (hG h).bounded (hl.bound h hh')) (by rw [hsrv]; exact hSf.bounded hl.sbound) ?_
  rintro k hk hx
  obtain rfl := hk.symm
  rw [single_step_rooms (s := s) hs.sinv] at hx
  obtain ⟨C, N, hrep, hkl⟩ := hl.link r hx
  have hbd := hrep.bound hl.bound
  have hNv : N hv.id = hv.ctr r := (hrep.1 hv hin).2
  have hout : ∀ {g : Host}, g ∈ c.hosts → ∀ o, o ∉ c.hosts.map Host.id → o ≠ g.id :=
    fun hg o ho e => ho (e ▸ List.mem_map_of_mem hg)
  rw [hm.asked, hm.hosts, single_step_asked, hsask, hsrv]
  unfold relayIf
  by_cases hb : r ∈ (recipients s.srv.rooms ns (.one r) skip.toList).map Prod.fst
  · -- the addressee receives the event, on the host where it lives
    obtain ⟨Hv, hHv, hbH⟩ := hur.mp hb
    obtain ⟨H, hH, rfl⟩ := List.mem_map.mp hHv
    have hbH' : r ∈ (recipients H.rooms ns (.one r) skip.toList).map Prod.fst := hbH
    obtain ⟨e2', h2⟩ := recipient_entry (hs.hinv H hH) hbH'
    have hhome : home r = H.id := hs.placed.home H.view (view_mem hH) _ h2
    have hiff : ∀ h ∈ c.hosts, r ∈ (recipients h.rooms ns (.one r) skip.toList).map Prod.fst ↔ h.id = H.id := by
      refine fun h hh' => ⟨fun hc => ?_, fun e => hs.host_eq hh' hH e ▸ hbH'⟩
      obtain ⟨e1', h1⟩ := recipient_entry (hs.hinv h hh') hc
      exact congrArg Prod.fst (hs.placed.same_host (view_mem hh') (view_mem hH) h1 h2 rfl)
    have hN1H : regN N hv.id (home r) = (if H.id = hv.id then (register H r (.user tok)).1 else H).ctr r := by
      rw [hhome]; exact ((show RepAt C N r H.id H from hrep.1 H hH).reg hv.id (.user tok)).2
    -- the new id on the cluster
    have hL := e6.trans (show _ = [(r, regN N hv.id (home r) + 1)] by
      rw [hN1H, flatMap_congr' (g := fun h => if h.id = H.id then (if h.id = hv.id then [] else [(r, h.ctr r + 1)]) else [])
        (fun h hh' => by by_cases hid : h.id = H.id <;> simp [hid, (hiff h hh').mpr, mt (hiff h hh').mp]),
        flatMap_if_id c.hosts hs.ids H hH]
      by_cases hHv' : H.id = hv.id
      · rw [if_pos (hs.host_eq hH hin hHv' ▸ hbH'), if_pos hHv', if_pos hHv', List.append_nil]
        simp [hs.host_eq hH hin hHv', register_ctr]
      · rw [if_neg (fun hc => hHv' ((hiff hv hin).mp hc).symm), if_neg hHv', if_neg hHv']; rfl)
    refine ⟨regC (regC C N hv.id (.user tok)) (regN N hv.id) (home r) (.relay (some hv.id) r ns (N hv.id + 1)),
      regN (regN N hv.id) (home r), ?_, ?_⟩
    · rw [hhome, hNv]
      refine Rep.of_pointwise _ (fun h _ => (hG h).id) (fun h hh' => ?_) (fun o ho i => ?_)
      · rw [cbHost, ← ite_congr (propext (hiff h hh')).symm (fun _ => rfl) (fun _ => rfl)]
        exact ((show RepAt C N r h.id h from hrep.1 h hh').reg hv.id (.user tok)).reg H.id _
      · simp only [regC, hout hin o ho, hout hH o ho, false_and, if_false]
        exact hrep.2 o ho i
    · have hSx : (register s.srv r (.user tok)).1.cbs r =
          fun i => if i = s.srv.ctr r + 1 then some (.user tok) else s.srv.cbs r i := by
        funext i; simp [register_cbs]
      have hSn : (register s.srv r (.user tok)).1.ctr r = s.srv.ctr r + 1 := by simp [register_ctr]
      rw [hL, if_pos hb, if_pos hb, askedOf_append, askedOf_append, askedOf_single_self, askedOf_single_self,
        List.zip_append (hl.len r), hSx, hSn]
      exact hkl.emit hbd hv.id tok ns
  · -- the addressee does not receive the event (not connected to the namespace, or skipped)
    have hnbh : ∀ h ∈ c.hosts, r ∉ (recipients h.rooms ns (.one r) skip.toList).map Prod.fst :=
      fun h hh' hc => hb (hur.mpr ⟨h.view, view_mem hh', hc⟩)
    refine ⟨regC C N hv.id (.user tok), regN N hv.id, ?_, ?_⟩
    · refine Rep.of_pointwise _ (fun h _ => (hG h).id) (fun h hh' => ?_) (fun o ho i => ?_)
      · rw [cbHost, if_neg (hnbh h hh')]
        exact (show RepAt C N r h.id h from hrep.1 h hh').reg hv.id (.user tok)
      · simp only [regC, hout hin o ho, false_and, if_false]
        exact hrep.2 o ho i
    · rw [e6, if_neg (hnbh hv hin), if_neg hb, if_neg hb, List.flatMap_eq_nil_iff.mpr (fun h hh' => by
        rw [if_neg (hnbh h hh')]; split <;> rfl)]
      simp only [List.append_nil]
      exact hkl.reg_host hbd hv.id (.user tok)

/-- **One step of the callback-level simulation**: after the operation and the drain the tables of
    the cluster and of the reference server are linked again, the cluster has invoked exactly the
    callbacks (token and arguments, in order) that the reference server has invoked, and a step
    never mixes callbacks with disconnect handlers. -/
theorem linked_step (hs : Sim home ehome c s) (hl : Linked home c s) (op : Op)
    (hop : OpOk home ehome (c.views.map Prod.fst) op) (hh : HistOpOk s op) : StepGoal home c s op := by
  cases op with
  | connect hid ns eio sid =>
    exact linked_on_frame hs hl _ hop hh hid hop.1 (fun h => apiConnect h ns eio sid) rfl
      (fun _ _ _ => ⟨⟨rfl, rfl, rfl, rfl, rfl⟩, fun _ hm => nomatch hm⟩) ⟨rfl, rfl⟩ rfl rfl
  | enter via ns sid room =>
    have hS : Keeps (singleEnter s.srv ns sid room) s.srv := by
      unfold singleEnter; split <;> exact ⟨rfl, rfl, rfl, rfl, rfl⟩
    exact linked_on_frame hs hl _ hop trivial via hop (fun h => apiEnter h ns sid room) rfl
      (fun h _ _ => by
        unfold apiEnter; split
        · exact ⟨⟨rfl, rfl, rfl, rfl, rfl⟩, fun _ hm => nomatch hm⟩
        · exact ⟨⟨rfl, rfl, rfl, rfl, rfl⟩, fun _ hm => List.mem_singleton.mp hm ▸ trivial⟩)
      ⟨hS.cbs, hS.ctr⟩ (singleEnter_obs s.srv ns sid room).2.2 hS.quiet
  | leave via ns sid room =>
    exact linked_on_frame hs hl _ hop trivial via hop (fun h => apiLeave h ns sid room) rfl
      (fun h _ _ => by
        unfold apiLeave; split
        · exact ⟨⟨rfl, rfl, rfl, rfl, rfl⟩, fun _ hm => nomatch hm⟩
        · exact ⟨⟨rfl, rfl, rfl, rfl, rfl⟩, fun _ hm => List.mem_singleton.mp hm ▸ trivial⟩)
      ⟨rfl, rfl⟩ rfl rfl
  | close via ns room =>
    exact linked_on_frame hs hl _ hop trivial via hop (fun h => apiClose h ns room) rfl
      (fun _ _ _ => ⟨⟨rfl, rfl, rfl, rfl, rfl⟩, fun _ hm => List.mem_singleton.mp hm ▸ trivial⟩) ⟨rfl, rfl⟩ rfl rfl
  | emit via ev d ns to skip cb =>
    cases via with
    | none => exact linked_emit_wo hs hl ev d ns to skip cb hop
    | some v =>
      cases cb with
      | none =>
        obtain ⟨hS, hask, hscb⟩ := single_emit_plain s (some v) ev d ns to skip
        refine linked_on_frame hs hl _ hop (fun h => (nomatch h)) v (hop.1 v rfl)
          (fun h => apiEmit h true ev d ns to skip none) rfl (fun h _ _ => ?_) hS hask hscb
        have hk := emitLocal_none_host h ns to skip.toList (.str ev) d.pack
        rw [apiEmit_nocb h true ev d ns to skip hop.2.1]
        exact ⟨.of_eq hk.1 hk.2.1, fun _ hm => List.mem_singleton.mp hm ▸ ⟨rfl, hop.2.1⟩⟩
      | some tok => exact linked_emit_cb hs hl v ev d ns to skip tok hop hh
  | disconnect via ns sid => exact linked_disconnect hs hl via ns sid hop
  | ack ns sid n args => exact linked_ack hs hl ns sid n args
  | deliver | drain => exact hop.elim

end ops

end Sio.PubSub
