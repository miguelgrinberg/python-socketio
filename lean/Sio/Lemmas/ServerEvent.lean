/-
  K4 — incoming events (property C05): the connected gate of `_handle_event`, the reassembly buffer
  (keyed by transport), frames that complete an EVENT, and the concatenation law of `run`.
-/
import Sio.Lemmas.ServerAck
namespace Sio.Server
open Sio.Rooms

theorem isConnected_of_sidOf {s : Srv} (h : WF s) {ns : Ns} {t : Eio} {sid : Sid}
    (hs : sidOf s.rooms ns t = some sid) : isConnected s sid ns = true := by
  unfold isConnected
  rw [h.pendingNil, sidOf_eioOf h.rooms hs]
  rfl

theorem handleEvent_connected {s : Srv} (h : WF s) (cfg : Cfg) {t : Eio} {nsp : Option Str}
    {sid : Sid} (id : Option Nat) {data : Option J} {first : J} {rest : List J}
    (hs : sidOf s.rooms (nsp.getD ['/']) t = some sid) (hd : splitEvent data = .ok (first, rest)) :
    handleEvent cfg s t nsp id data =
      if cfg.asyncHandlers then
        ({ s with bg := s.bg ++ [⟨sid, t, first, rest, nsp.getD ['/'], id⟩] }, [])
      else runHandler cfg s ⟨sid, t, first, rest, nsp.getD ['/'], id⟩ := by
  unfold handleEvent
  simp only [hd, hs, isConnected_of_sidOf h hs]
  rfl

theorem handleEvent_not_connected (cfg : Cfg) {s : Srv} {t : Eio} {nsp : Option Str}
    (id : Option Nat) {data : Option J} {first : J} {rest : List J}
    (hs : sidOf s.rooms (nsp.getD ['/']) t = none) (hd : splitEvent data = .ok (first, rest)) :
    handleEvent cfg s t nsp id data = (s, []) := by
  unfold handleEvent
  simp only [hd, hs]

def Out.isInvoke : Out → Bool
  | .invoke _ _ => true
  | _ => false

def Out.isSend : Out → Bool
  | .send _ _ => true
  | _ => false

theorem sendTo_open {s : Srv} {t : Eio} (ht : t ∈ s.socks) (p : Packet) :
    sendTo s (some t) p = [.send t p] := by
  unfold sendTo
  simp [ht]

theorem sendTo_isInvoke (s : Srv) (t : Option Eio) (p : Packet) :
    (sendTo s t p).filter Out.isInvoke = [] := by
  rw [List.filter_eq_nil_iff]
  intro o ho
  obtain ⟨_, _, _, rfl⟩ := mem_sendTo ho
  simp [Out.isInvoke]

theorem ackFor_isInvoke (s : Srv) (t : Eio) (ns : Ns) (id : Option Nat) (d : Data) :
    (ackFor s t ns id d).filter Out.isInvoke = [] := by
  unfold ackFor; split
  · exact sendTo_isInvoke ..
  · rfl

theorem runHandler_invokes (cfg : Cfg) (s : Srv) (b : Bg) :
    (runHandler cfg s b).2.filter Out.isInvoke =
      (evRes cfg b (cfg.script.onEvent s.nEv)).2.1.filter Out.isInvoke := by
  rw [runHandler_eq, List.filter_append]
  split <;> simp only [ackFor_isInvoke, List.filter_nil, List.append_nil]

theorem run_append (dec : Str → Except Err (Packet × Nat)) (cfg : Cfg) (s : Srv)
    (is js : List Input) :
    run dec cfg s (is ++ js) =
      ((run dec cfg (run dec cfg s is).1 js).1,
        (run dec cfg s is).2 ++ (run dec cfg (run dec cfg s is).1 js).2) := by
  induction is generalizing s with
  | nil => simp [run_nil]
  | cons i is ih =>
    rw [List.cons_append, run_cons, ih, run_cons]
    simp [List.append_assoc]

/-- the outputs of the steps of a history, one list per input -/
def trace (dec : Str → Except Err (Packet × Nat)) (cfg : Cfg) (s : Srv) : List Input → List (List Out)
  | [] => []
  | i :: is => (step dec cfg s i).2 :: trace dec cfg (step dec cfg s i).1 is

theorem find_setBin (b : List (Eio × Partial)) (t : Eio) (p : Partial)
    (h : (b.find? (fun e => e.1 = t)).isSome) :
    (setBin b t p).find? (fun e => e.1 = t) = some (t, p) := by
  unfold setBin
  induction b with
  | nil => cases h
  | cons a b ih =>
    rw [List.find?_cons] at h
    rw [List.map_cons, List.find?_cons]
    by_cases ha : a.1 = t
    · simp [ha]
    · simp only [ha, if_false, decide_false] at h ⊢
      exact ih h

theorem find_push {b : List (Eio × Partial)} {t : Eio} (h : b.find? (fun e => e.1 = t) = none)
    (p : Partial) : (b ++ [(t, p)]).find? (fun e => e.1 = t) = some (t, p) := by
  rw [List.find?_append, h]; simp

theorem filter_setBin (b : List (Eio × Partial)) (t : Eio) (p : Partial) :
    (setBin b t p).filter (fun e => e.1 != t) = b.filter (fun e => e.1 != t) := by
  unfold setBin
  induction b with
  | nil => rfl
  | cons a b ih =>
    rw [List.map_cons, List.filter_cons, List.filter_cons, ih]
    by_cases ha : a.1 = t <;> simp [ha]

theorem filter_push {b : List (Eio × Partial)} {t : Eio} (h : b.find? (fun e => e.1 = t) = none)
    (p : Partial) : (b ++ [(t, p)]).filter (fun e => e.1 != t) = b := by
  rw [List.filter_append,
    filter_sid_ne_self fun e he heq => List.find?_eq_none.mp h e he (decide_eq_true heq)]
  simp

theorem handleConnect_binbuf (cfg : Cfg) (s : Srv) (t : Eio) (nsp : Option Str) (data : Option J) :
    (handleConnect cfg s t nsp data).1.binbuf = s.binbuf := by
  rcases handleConnect_state cfg s t nsp data with h1 | ⟨rooms', k, _, _, h1 | ⟨p, _, h1⟩⟩ <;>
    rw [h1] <;> rfl

theorem handleDisconnect_binbuf (cfg : Cfg) (s : Srv) (t : Eio) (ns : Ns) (reason : Str) :
    (handleDisconnect cfg s t ns reason).1.binbuf = s.binbuf := by
  rcases handleDisconnect_state cfg s t ns reason with ⟨h1, _⟩ | ⟨sid, k, _, _, h1⟩ <;>
    rw [h1] <;> rfl

theorem handleAck_binbuf (s : Srv) (t : Eio) (nsp : Option Str) (id : Option Nat) (data : Option J) :
    (handleAck s t nsp id data).1.binbuf = s.binbuf := by
  rcases handleAck_state s t nsp id data with h1 | ⟨sid, i, tok, _, _, _, h1 | ⟨n, args, _, _, h1⟩⟩ <;>
    rw [h1] <;> rfl

theorem handleEvent_binbuf (cfg : Cfg) (s : Srv) (t : Eio) (nsp : Option Str) (id : Option Nat)
    (data : Option J) : (handleEvent cfg s t nsp id data).1.binbuf = s.binbuf :=
  (core_fields (handleEvent_core cfg s t nsp id data)).binbuf

theorem find_setBin_ne (b : List (Eio × Partial)) {t t' : Eio} (hne : t' ≠ t) (p : Partial) :
    (setBin b t' p).find? (fun e => e.1 = t) = b.find? (fun e => e.1 = t) := by
  unfold setBin
  induction b with
  | nil => rfl
  | cons a b ih =>
    rw [List.map_cons, List.find?_cons, List.find?_cons, ih]
    by_cases ha : a.1 = t'
    · simp [ha, hne]
    · simp [ha]

theorem find_push_ne (b : List (Eio × Partial)) {t t' : Eio} (hne : t' ≠ t) (p : Partial) :
    (b ++ [(t', p)]).find? (fun e => e.1 = t) = b.find? (fun e => e.1 = t) := by
  rw [List.find?_append]
  simp [hne]

variable {dec : Str → Except Err (Packet × Nat)} {cfg : Cfg}

theorem step_of_completesEvent {s s₀ : Srv} {t : Eio} {v : J} {nsp : Option Str} {id : Option Nat}
    {data : Option J} (h : CompletesEvent dec s t v nsp id data s₀) :
    step dec cfg s (.frame t v) = handleEvent cfg s₀ t nsp id data := by
  rw [step]
  cases h with
  | text hf hd ht =>
    rw [handleFrame_text dec cfg hf, hd]
    unfold dispatchPacket
    simp [ht, EVENT, CONNECT, DISCONNECT]
  | binary hf h1 h2 h3 h4 => rw [handleFrame_last dec cfg hf h1 h2 h3, if_pos h4]

theorem CompletesEvent.state {s s₀ : Srv} {t : Eio} {v : J} {nsp : Option Str} {id : Option Nat}
    {data : Option J} (h : CompletesEvent dec s t v nsp id data s₀) : s₀ = s ∨ s₀ = dropBin s t := by
  cases h with
  | text => exact Or.inl rfl
  | binary => exact Or.inr rfl

theorem CompletesEvent.wf {s s₀ : Srv} {t : Eio} {v : J} {nsp : Option Str} {id : Option Nat}
    {data : Option J} (h : CompletesEvent dec s t v nsp id data s₀) (hw : WF s) :
    WF s₀ ∧ s₀.rooms = s.rooms ∧ s₀.socks = s.socks := by
  cases h with
  | text => exact ⟨hw, rfl, rfl⟩
  | binary => exact ⟨⟨hw.toWF0.filterBin _, hw.pendingNil⟩, rfl, rfl⟩

/-- the frame that completes an EVENT of a connected session: its handler runs on the state the
    frame leaves, at once or from the background queue -/
theorem step_connected_event {s s₀ : Srv} (hw : WF s) {t : Eio} {v : J} {nsp : Option Str}
    {id : Option Nat} {ev : J} {args : List J} {sid : Sid}
    (h : CompletesEvent dec s t v nsp id (some (.arr (ev :: args))) s₀)
    (hs : sidOf s.rooms (nsp.getD ['/']) t = some sid) :
    step dec cfg s (.frame t v) =
      if cfg.asyncHandlers then
        ({ s₀ with bg := s₀.bg ++ [⟨sid, t, ev, args, nsp.getD ['/'], id⟩] }, [])
      else runHandler cfg s₀ ⟨sid, t, ev, args, nsp.getD ['/'], id⟩ := by
  obtain ⟨hw0, hr0, _⟩ := h.wf hw
  rw [step_of_completesEvent h, handleEvent_connected hw0 cfg id (hr0 ▸ hs) rfl]

end Sio.Server
