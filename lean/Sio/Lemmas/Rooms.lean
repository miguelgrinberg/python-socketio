/-
  Helper lemmas for K3 (rooms): membership characterisations of the model's queries, the model
  invariant and its preservation, recipient-list lemmas.
-/
import Sio.Model.RoomsSpec
namespace Sio.Rooms

theorem isMember_iff {s : St} {ns : Ns} {room : Option Room} {sid : Sid} :
    isMember s ns room sid = true ↔ ∃ eio, (⟨ns, room, sid, eio⟩ : Entry) ∈ s := by
  simp only [isMember, List.any_eq_true, decide_eq_true_eq]
  constructor
  · rintro ⟨e, he, h1, h2, h3⟩
    exact ⟨e.eio, by subst h1 h2 h3; exact he⟩
  · rintro ⟨eio, he⟩
    exact ⟨_, he, rfl, rfl, rfl⟩

theorem isMember_false_iff {s : St} {ns : Ns} {room : Option Room} {sid : Sid} :
    isMember s ns room sid = false ↔ ∀ eio, (⟨ns, room, sid, eio⟩ : Entry) ∉ s := by
  rw [← Bool.not_eq_true, isMember_iff]; simp

theorem hasNs_iff {s : St} {ns : Ns} : hasNs s ns = true ↔ ∃ e ∈ s, e.ns = ns := by
  simp [hasNs]

theorem eioOf_none_iff {s : St} {ns : Ns} {sid : Sid} :
    eioOf s ns sid = none ↔ ∀ eio, (⟨ns, none, sid, eio⟩ : Entry) ∉ s := by
  simp only [eioOf, Option.map_eq_none_iff, List.find?_eq_none, decide_eq_true_eq]
  constructor
  · intro h eio he
    exact h _ he ⟨rfl, rfl, rfl⟩
  · rintro h ⟨a, b, c, d⟩ he ⟨h1, h2, h3⟩
    simp only at h1 h2 h3
    subst h1 h2 h3; exact h d he

theorem sidOf_none_iff {s : St} {ns : Ns} {eio : Eio} :
    sidOf s ns eio = none ↔ ∀ sid, (⟨ns, none, sid, eio⟩ : Entry) ∉ s := by
  simp only [sidOf, Option.map_eq_none_iff, List.find?_eq_none, decide_eq_true_eq]
  constructor
  · intro h sid he
    exact h _ he ⟨rfl, rfl, rfl⟩
  · rintro h ⟨a, b, c, d⟩ he ⟨h1, h2, h3⟩
    simp only at h1 h2 h3
    subst h1 h2 h3; exact h c he

theorem eioOf_some_mem {s : St} {ns : Ns} {sid : Sid} {eio : Eio}
    (h : eioOf s ns sid = some eio) : (⟨ns, none, sid, eio⟩ : Entry) ∈ s := by
  simp only [eioOf, Option.map_eq_some_iff] at h
  obtain ⟨⟨a, b, c, d⟩, hf, rfl⟩ := h
  have hm := List.mem_of_find?_eq_some hf
  have hp := List.find?_some hf
  simp only [decide_eq_true_eq] at hp
  obtain ⟨h1, h2, h3⟩ := hp
  subst h1 h2 h3; exact hm

theorem sidOf_some_mem {s : St} {ns : Ns} {sid : Sid} {eio : Eio}
    (h : sidOf s ns eio = some sid) : (⟨ns, none, sid, eio⟩ : Entry) ∈ s := by
  simp only [sidOf, Option.map_eq_some_iff] at h
  obtain ⟨⟨a, b, c, d⟩, hf, rfl⟩ := h
  have hm := List.mem_of_find?_eq_some hf
  have hp := List.find?_some hf
  simp only [decide_eq_true_eq] at hp
  obtain ⟨h1, h2, h3⟩ := hp
  subst h1 h2 h3; exact hm

/-- What every reachable state satisfies. -/
structure Inv (s : St) : Prop where
  /-- no duplicate entries -/
  nodup : s.Nodup
  /-- every member of any room of a namespace is in room `None` of that namespace, with the same
      transport -/
  inNone : ∀ e ∈ s, (⟨e.ns, none, e.sid, e.eio⟩ : Entry) ∈ s
  /-- within a namespace a session has one transport ... -/
  sidEio : ∀ e₁ ∈ s, ∀ e₂ ∈ s, e₁.ns = e₂.ns → e₁.sid = e₂.sid → e₁.eio = e₂.eio
  /-- ... and a transport has one session -/
  eioSid : ∀ e₁ ∈ s, ∀ e₂ ∈ s, e₁.ns = e₂.ns → e₁.eio = e₂.eio → e₁.sid = e₂.sid

theorem Inv.nil : Inv [] := ⟨List.nodup_nil, by simp, by simp, by simp⟩

theorem Inv.eioOf_iff {s : St} (h : Inv s) {ns : Ns} {sid : Sid} {eio : Eio} :
    eioOf s ns sid = some eio ↔ (⟨ns, none, sid, eio⟩ : Entry) ∈ s := by
  refine ⟨eioOf_some_mem, fun hm => ?_⟩
  cases hq : eioOf s ns sid with
  | none => exact absurd hm (eioOf_none_iff.mp hq eio)
  | some x =>
    have := h.sidEio _ (eioOf_some_mem hq) _ hm rfl rfl
    simp at this; simp [this]

theorem Inv.sidOf_iff {s : St} (h : Inv s) {ns : Ns} {sid : Sid} {eio : Eio} :
    sidOf s ns eio = some sid ↔ (⟨ns, none, sid, eio⟩ : Entry) ∈ s := by
  refine ⟨sidOf_some_mem, fun hm => ?_⟩
  cases hq : sidOf s ns eio with
  | none => exact absurd hm (sidOf_none_iff.mp hq sid)
  | some x =>
    have := h.eioSid _ (sidOf_some_mem hq) _ hm rfl rfl
    simp at this; simp [this]

theorem mem_add {s : St} {e x : Entry} : x ∈ add s e ↔ x ∈ s ∨ x = e := by
  unfold add
  split
  · constructor
    · exact Or.inl
    · rintro (h | rfl) <;> assumption
  · simp

theorem nodup_add {s : St} {e : Entry} (h : s.Nodup) : (add s e).Nodup := by
  unfold add
  split
  · exact h
  · rename_i hn
    rw [List.nodup_append]
    refine ⟨h, by simp, ?_⟩
    intro a ha b hb
    simp at hb; subst hb
    rintro rfl; exact hn ha

/-- Adding an entry: its room-`None` entry must be there afterwards, and the old entries of its
    namespace must pair its session with its transport and nothing else with either. -/
theorem add_inv_of {s : St} (h : Inv s) {e : Entry}
    (he : (⟨e.ns, none, e.sid, e.eio⟩ : Entry) ∈ add s e)
    (hc : ∀ x ∈ s, x.ns = e.ns → (x.sid = e.sid ↔ x.eio = e.eio)) : Inv (add s e) where
  nodup := nodup_add h.nodup
  inNone := by
    intro x hx
    rcases mem_add.mp hx with hx | rfl
    · exact mem_add.mpr (Or.inl (h.inNone x hx))
    · exact he
  sidEio := by
    intro a ha b hb
    rcases mem_add.mp ha with ha' | rfl <;> rcases mem_add.mp hb with hb' | rfl
    · exact h.sidEio a ha' b hb'
    · exact fun h1 => (hc a ha' h1).1
    · exact fun h1 h2 => ((hc b hb' h1.symm).1 h2.symm).symm
    · intros; rfl
  eioSid := by
    intro a ha b hb
    rcases mem_add.mp ha with ha' | rfl <;> rcases mem_add.mp hb with hb' | rfl
    · exact h.eioSid a ha' b hb'
    · exact fun h1 => (hc a ha' h1).2
    · exact fun h1 h2 => ((hc b hb' h1.symm).2 h2.symm).symm
    · intros; rfl

/-- adding a room entry for a session that is connected with that transport -/
theorem Inv.add {s : St} (h : Inv s) {e : Entry}
    (he : (⟨e.ns, none, e.sid, e.eio⟩ : Entry) ∈ s) : Inv (add s e) :=
  add_inv_of h (mem_add.mpr (Or.inl he)) fun x hx h1 =>
    ⟨h.sidEio x hx ⟨e.ns, none, e.sid, e.eio⟩ he h1, h.eioSid x hx ⟨e.ns, none, e.sid, e.eio⟩ he h1⟩

/-- adding the room-`None` entry of a fresh session on a transport that has no session on the
    namespace -/
theorem addNone_inv {s : St} (h : Inv s) {ns : Ns} {sid : Sid} {eio : Eio}
    (hf : ∀ x ∈ s, x.ns = ns → x.sid ≠ sid ∧ x.eio ≠ eio) :
    Inv (add s ⟨ns, none, sid, eio⟩) :=
  add_inv_of h (mem_add.mpr (Or.inr rfl)) fun x hx h1 =>
    ⟨fun h2 => absurd h2 (hf x hx h1).1, fun h2 => absurd h2 (hf x hx h1).2⟩

/-- removing entries, as long as a session's room-`None` entry goes last -/
theorem Inv.filter {s : St} (h : Inv s) (p : Entry → Bool)
    (hp : ∀ e ∈ s, p e = true → p ⟨e.ns, none, e.sid, e.eio⟩ = true) : Inv (s.filter p) where
  nodup := h.nodup.filter _
  inNone := by
    intro e he
    rw [List.mem_filter] at he ⊢
    exact ⟨h.inNone e he.1, hp e he.1 he.2⟩
  sidEio := by
    intro a ha b hb
    exact h.sidEio a (List.mem_filter.mp ha).1 b (List.mem_filter.mp hb).1
  eioSid := by
    intro a ha b hb
    exact h.eioSid a (List.mem_filter.mp ha).1 b (List.mem_filter.mp hb).1

/-- nothing at all is recorded on a namespace for a session that is not connected to it -/
theorem Inv.no_entry_of_eioOf_none {s : St} (h : Inv s) {ns : Ns} {sid : Sid}
    (hn : eioOf s ns sid = none) : ∀ x ∈ s, x.ns = ns → x.sid ≠ sid := by
  intro x hx h1 h2
  have := h.inNone x hx
  rw [h1, h2] at this
  exact eioOf_none_iff.mp hn _ this

theorem Inv.no_entry_of_sidOf_none {s : St} (h : Inv s) {ns : Ns} {eio : Eio}
    (hn : sidOf s ns eio = none) : ∀ x ∈ s, x.ns = ns → x.eio ≠ eio := by
  intro x hx h1 h2
  have := h.inNone x hx
  rw [h1, h2] at this
  exact sidOf_none_iff.mp hn _ this

theorem Inv.connect {s s' : St} (h : Inv s) {ns : Ns} {eio : Eio} {sid : Sid}
    (hfresh : eioOf s ns sid = none) (hc : Rooms.connect s ns eio sid = some s') : Inv s' := by
  unfold Rooms.connect at hc
  split at hc
  · cases hc
  · rename_i hs
    cases hc
    refine Inv.add (addNone_inv h ?_) (mem_add.mpr (Or.inr rfl))
    intro x hx hns
    exact ⟨h.no_entry_of_eioOf_none hfresh x hx hns, h.no_entry_of_sidOf_none hs x hx hns⟩

theorem Inv.enter {s s' : St} (h : Inv s) {ns : Ns} {sid : Sid} {room : Room}
    (he : Rooms.enter s ns sid room = .ok s') : Inv s' := by
  unfold Rooms.enter at he
  split at he
  · cases he
  · split at he
    · cases he
    · rename_i eio hq
      cases he
      exact Inv.add h (eioOf_some_mem hq)

theorem Inv.leave {s : St} (h : Inv s) (ns : Ns) (sid : Sid) (room : Room) :
    Inv (Rooms.leave s ns sid (some room)) :=
  h.filter _ fun e _ _ => by simp

theorem Inv.closeRoom {s : St} (h : Inv s) (ns : Ns) (room : Room) :
    Inv (Rooms.closeRoom s ns room) :=
  h.filter _ fun e _ _ => by simp

theorem Inv.disconnect {s : St} (h : Inv s) (ns : Ns) (sid : Sid) :
    Inv (Rooms.disconnect s ns sid) :=
  h.filter _ fun e _ hp => by simpa using hp

theorem Inv.lost {s : St} (h : Inv s) (eio : Eio) : Inv (Rooms.lost s eio) :=
  h.filter _ fun e _ hp => by simpa using hp

theorem Inv.apply {s : St} (h : Inv s) (op : Op) : Inv (Rooms.apply s op) := by
  cases op with
  | connect ns eio sid =>
    simp only [Rooms.apply]
    split
    · exact h
    · rename_i hf
      cases hc : Rooms.connect s ns eio sid with
      | none => simpa using h
      | some s' =>
        simp only [Option.getD_some]
        exact h.connect (by simpa using hf) hc
  | enter ns sid room =>
    simp only [Rooms.apply]
    split
    · rename_i s' he; exact h.enter he
    · exact h
  | leave ns sid room => exact h.leave ns sid room
  | closeRoom ns room => exact h.closeRoom ns room
  | disconnect ns sid => exact h.disconnect ns sid
  | lost eio => exact h.lost eio

theorem Inv.run {s : St} (h : Inv s) (ops : List Op) : Inv (Rooms.run s ops) := by
  induction ops generalizing s with
  | nil => exact h
  | cons op ops ih => exact ih (h.apply op)

end Sio.Rooms
