/-
  C01 — the specification codec (Sio/Model/CodecSpec.lean) against the model of the implementation.
-/
import Sio.Model.CodecSpec
import Sio.Lemmas.CodecPacket
namespace Sio

theorem spec_digitChar (d : Nat) (h : d < 10) : Spec.digitChar d = Nat.digitChar d := by
  revert d; decide

theorem spec_dec_eq (n : Nat) : Spec.dec n = natStr n := by
  induction n using Nat.strongRecOn with
  | _ n ih =>
    rw [Spec.dec, natStr, Nat.toDigits_eq_if (by decide)]
    split
    · rw [spec_digitChar n ‹_›]
    · rw [ih (n / 10) (by omega), spec_digitChar _ (Nat.mod_lt n (by decide))]; rfl

theorem spec_isDigit (c : Char) : Spec.isDigit c = c.isDigit := by
  simp [Spec.isDigit, Char.isDigit, Char.le_def, UInt32.le_iff_toNat_le]

section
/- the defining equations of the structural functions over `J`, for `simp` in the mutual proofs -/
attribute [local simp] decon deconL deconO binLeaves binLeavesL binLeavesO Spec.blobs Spec.blobsL
  Spec.blobsO Spec.strip Spec.stripL Spec.stripO

mutual
  theorem spec_blobs (j : J) : Spec.blobs j = binLeaves j := by
    cases j with
    | arr xs => simp [spec_blobsL xs]
    | obj kvs => simp [spec_blobsO kvs]
    | _ => simp
  theorem spec_blobsL (xs : List J) : Spec.blobsL xs = binLeavesL xs := by
    cases xs with
    | nil => simp
    | cons x xs => simp [spec_blobs x, spec_blobsL xs]
  theorem spec_blobsO (kvs : List (Str × J)) : Spec.blobsO kvs = binLeavesO kvs := by
    match kvs with
    | [] => simp
    | (k, x) :: xs => simp [spec_blobs x, spec_blobsO xs]
end

theorem spec_ph (k : Nat) : Spec.ph k = placeholder k := rfl

mutual
  theorem spec_strip (j : J) (acc : List Bytes) : Spec.strip acc.length j = (decon j acc).1 := by
    cases j with
    | arr xs => simp [spec_stripL xs acc]
    | obj kvs => simp [spec_stripO kvs acc]
    | bin b => simp [spec_ph]
    | _ => simp
  theorem spec_stripL (xs : List J) (acc : List Bytes) :
      Spec.stripL acc.length xs = (deconL xs acc).1 := by
    cases xs with
    | nil => simp
    | cons x xs =>
      have := spec_stripL xs (decon x acc).2
      simp only [decon_snd, List.length_append] at this
      simp [spec_strip x acc, spec_blobs, this, decon_snd]
  theorem spec_stripO (kvs : List (Str × J)) (acc : List Bytes) :
      Spec.stripO acc.length kvs = (deconO kvs acc).1 := by
    match kvs with
    | [] => simp
    | (k, x) :: xs =>
      have := spec_stripO xs (decon x acc).2
      simp only [decon_snd, List.length_append] at this
      simp [spec_strip x acc, spec_blobs, this, decon_snd]
end

theorem spec_isPh (kvs : List (Str × J)) : Spec.isPh kvs = asPlaceholder kvs := rfl

mutual
  theorem spec_fill_gen (j : J) (acc rest : List Bytes) (h : NoReservedKey j = true) :
      Spec.fill (acc ++ binLeaves j ++ rest) (decon j acc).1 = some j := by
    cases j with
    | bin b =>
      simp only [decon, placeholder, Spec.fill, spec_isPh, asPlaceholder_placeholder]; simp
    | arr xs =>
      have := spec_fillL_gen xs acc rest h
      simp only [List.append_assoc] at this
      simp [Spec.fill, this]
    | obj kvs =>
      have := spec_fillO_gen kvs acc rest h
      simp only [List.append_assoc] at this
      simp [Spec.fill, spec_isPh, asPlaceholder_none_of_lookup _ (lookup_reserved_deconO kvs acc h),
        this]
    | _ => simp [Spec.fill]
  theorem spec_fillL_gen (xs : List J) (acc rest : List Bytes) (h : NoReservedKeyL xs = true) :
      Spec.fillL (acc ++ binLeavesL xs ++ rest) (deconL xs acc).1 = some xs := by
    cases xs with
    | nil => simp [Spec.fillL]
    | cons x xs =>
      simp only [NoReservedKeyL, Bool.and_eq_true] at h
      have hx := spec_fill_gen x acc (binLeavesL xs ++ rest) h.1
      have hxs := spec_fillL_gen xs (decon x acc).2 rest h.2
      simp only [decon_snd, List.append_assoc] at hx hxs
      simp only [deconL, Spec.fillL, binLeavesL, decon_snd, List.append_assoc, hx, hxs]
  theorem spec_fillO_gen (kvs : List (Str × J)) (acc rest : List Bytes)
      (h : NoReservedKeyO kvs = true) :
      Spec.fillO (acc ++ binLeavesO kvs ++ rest) (deconO kvs acc).1 = some kvs := by
    match kvs with
    | [] => simp [Spec.fillO]
    | (k, x) :: xs =>
      simp only [NoReservedKeyO, Bool.and_eq_true] at h
      have hx := spec_fill_gen x acc (binLeavesO xs ++ rest) h.1.2
      have hxs := spec_fillO_gen xs (decon x acc).2 rest h.2
      simp only [decon_snd, List.append_assoc] at hx hxs
      simp only [deconO, Spec.fillO, binLeavesO, decon_snd, List.append_assoc, hx, hxs]
end

end

theorem spec_isBinaryType (t : Nat) : Spec.isBinaryType t = isBinType t := by
  rw [Bool.eq_iff_iff]
  simp only [Spec.isBinaryType, isBinType, Bool.or_eq_true, decide_eq_true_eq, beq_iff_eq]
  rfl

theorem spec_frame_eq (dumps : J → Str) (p : Packet) :
    Spec.frame dumps p = (encodeHdr p.type p.nsp p.id p.nattField
      ++ (match p.wire.data with | some j => dumps j | none => []), p.atts) := by
  obtain ⟨t, nsp, id, data⟩ := p
  simp only [Spec.frame, spec_isBinaryType, spec_dec_eq, encodeHdr]
  -- both sides are the same concatenation, field by field: count, namespace, id, payload; attachments
  congr 5
  · cases hb : isBinType t with
    | false => simp [Packet.nattField, hb]
    | true => cases data <;> simp [Packet.nattField, hb, spec_blobs]
  · cases nsp <;> rfl
  · cases id <;> rfl
  · exact funext fun j => spec_strip j []
  · exact funext spec_blobs

theorem spec_digits_run (ds rest : Str) (hds : ∀ c ∈ ds, c.isDigit = true)
    (hrest : rest = [] ∨ ∃ c r, rest = c :: r ∧ c.isDigit = false) (acc : Nat) :
    Spec.digits acc (ds ++ rest) = (Nat.ofDigitChars 10 ds acc, rest) := by
  induction ds generalizing acc with
  | nil =>
    rcases hrest with rfl | ⟨c, r, rfl, hc⟩
    · simp [Spec.digits]
    · simp [Spec.digits, spec_isDigit, hc]
  | cons d ds ih =>
    have hd := hds d (by simp)
    simp only [List.cons_append, Spec.digits, spec_isDigit, hd, if_true, Nat.ofDigitChars_cons]
    rw [ih (fun c hc => hds c (by simp [hc])), Nat.mul_comm]; rfl

theorem spec_number_natStr (n : Nat) (rest : Str)
    (hrest : rest = [] ∨ ∃ c r, rest = c :: r ∧ c.isDigit = false) :
    Spec.number (natStr n ++ rest) = some (n, rest) := by
  obtain ⟨d, ds, hd, hdd⟩ := natStr_cons n
  have hds : ∀ c ∈ ds, c.isDigit = true := fun c hc => natStr_isDigit (by rw [hd]; simp [hc])
  have hv : Nat.ofDigitChars 10 ds (Spec.digitVal d) = n := by
    have := Nat.ofDigitChars_ten_toDigits (n := n)
    rw [show Nat.toDigits 10 n = d :: ds from hd, Nat.ofDigitChars_cons] at this
    simpa [Spec.digitVal] using this
  rw [hd]
  simp only [List.cons_append, Spec.number, spec_isDigit, hdd, if_true]
  rw [spec_digits_run ds rest hds hrest, hv]

theorem spec_number_none_nil : Spec.number [] = none := rfl

theorem spec_number_none {c : Char} {r : Str} (hc : c.isDigit = false) :
    Spec.number (c :: r) = none := by
  simp [Spec.number, spec_isDigit, hc]

theorem spec_ptype {t : Nat} (ht : t ≤ 6) (r : Str) : Spec.ptype (natStr t ++ r) = some (t, r) := by
  have h10 : t < 10 := by omega
  have hv : Spec.digitVal (Nat.digitChar t) = t := Nat.toNat_digitChar_sub_48_of_lt_ten h10
  have hd : (Nat.digitChar t).isDigit = true := by rw [Nat.isDigit_digitChar]; simpa using h10
  rw [natStr_of_lt_ten h10]
  simp [Spec.ptype, spec_isDigit, hd, hv, ht]

theorem spec_attachments (n : Nat) (r : Str) :
    Spec.attachments (natStr n ++ '-' :: r) = some (n, r) := by
  simp only [Spec.attachments]
  rw [spec_number_natStr n ('-' :: r) (Or.inr ⟨'-', r, rfl, by decide⟩)]
  simp [Spec.lit]

theorem spec_nsChars (tl r : Str) (h : ',' ∉ tl) : Spec.nsChars (tl ++ ',' :: r) = (tl, ',' :: r) := by
  induction tl with
  | nil => simp [Spec.nsChars]
  | cons c tl ih =>
    have hc : c ≠ ',' := fun e => h (by simp [e])
    simp [Spec.nsChars, hc, ih (fun hm => h (by simp [hm]))]

theorem spec_nspace (tl r : Str) (h : ',' ∉ ('/' :: tl)) :
    Spec.nspace (('/' :: tl) ++ ',' :: r) = some (('/' :: tl).takeWhile (· != '?'), r) := by
  have h' : ',' ∉ tl := fun hm => h (by simp [hm])
  simp only [List.cons_append, Spec.nspace, spec_nsChars tl r h']
  simp [Spec.lit]

theorem spec_nspace_nil : Spec.nspace [] = none := rfl

theorem spec_nspace_none {s : Str} (h : ∀ r, s ≠ '/' :: r) : Spec.nspace s = none := by
  unfold Spec.nspace
  split
  · exact absurd rfl (h _)
  · rfl

theorem startOK_cons {c : Char} {r : Str} (h : StartOK (c :: r) = true) :
    c.isDigit = false ∧ c ≠ '/' := by
  simp only [StartOK, Bool.and_eq_true] at h
  simpa using And.intro h.1.1.2 h.2

/-- the last production (`[ payload ]`) of `Spec.parse` -/
def specTail (loads : Str → Except Err J) (t : Nat) (ns : Option Str) (id : Option Nat) (n : Nat)
    (body : Str) : Except Err (Packet × Nat) :=
  match body with
  | [] => .ok (⟨t, ns, id, none⟩, n)
  | _ => match loads body with
    | .ok j => .ok (⟨t, ns, id, some j⟩, n)
    | .error e => .error e

theorem spec_parse_hdr (loads : Str → Except Err J) {t : Nat} {nsp : Option Str}
    {id natt : Option Nat} {body : Str} (hwf : WFHdr t nsp id natt = true)
    (hatt : natt.isSome = isBinType t)
    (hb : ∀ c r, body = c :: r → c.isDigit = false ∧ c ≠ '/') :
    Spec.parse loads (encodeHdr t nsp id natt ++ body) =
      specTail loads t (normNs nsp) id (natt.getD 0) body := by
  obtain ⟨ht, hns, _⟩ := wfHdr_unpack hwf
  have hbody : body = [] ∨ ∃ c r, body = c :: r ∧ c.isDigit = false := by
    cases body with
    | nil => left; rfl
    | cons c r => right; exact ⟨c, r, rfl, (hb c r rfl).1⟩
  -- attachments
  have h1 : (if Spec.isBinaryType t then Spec.attachments (attPart natt ++ (nspPart nsp ++ (idPart id ++ body)))
        else some (0, attPart natt ++ (nspPart nsp ++ (idPart id ++ body))))
      = some (natt.getD 0, nspPart nsp ++ (idPart id ++ body)) := by
    rw [spec_isBinaryType, ← hatt]
    cases natt with
    | none => rfl
    | some n =>
      simp only [attPart, List.append_assoc, List.singleton_append, Option.isSome_some, if_true,
        Option.getD_some]
      exact spec_attachments n _
  -- namespace
  have h2 : Spec.opt Spec.nspace (nspPart nsp ++ (idPart id ++ body)) = (normNs nsp, idPart id ++ body) := by
    rcases nspPart_cases hns with ⟨hd, hn, hnorm⟩ | ⟨tl, _, hn, hc, hnorm⟩
    · rw [hn, hnorm, List.nil_append]
      simp [Spec.opt, spec_nspace_none (idPart_ne_slash fun _ r h => (hb _ _ h).2 rfl)]
    · rw [hn, hnorm, List.append_assoc, List.singleton_append]
      have e := spec_nspace tl (idPart id ++ body) hc
      simp only [List.cons_append] at e
      simp [Spec.opt, e]
  -- id
  have h3 : Spec.opt Spec.number (idPart id ++ body) = (id, body) := by
    cases id with
    | some i => simp [Spec.opt, idPart, spec_number_natStr i body hbody]
    | none =>
      simp only [idPart, List.nil_append]
      rcases hbody with rfl | ⟨c, r, rfl, hc⟩
      · rfl
      · simp [Spec.opt, spec_number_none hc]
  rw [encodeHdr_eq]
  simp only [Spec.parse, spec_ptype ht, h1, h2, h3]
  cases body <;> rfl

theorem spec_frame_encode (dumps : J → Str) (p : Packet) :
    Spec.frame dumps p = ((encode dumps p).1, (encode dumps p).2.getD []) := by
  rw [encode_atts, spec_frame_eq, encode_eq]; rfl

theorem spec_accepts_lem {dumps : J → Str} {loads : Str → Except Err J} {p : Packet}
    (hrt : ∀ j, p.wire.data = some j → loads (dumps j) = .ok j)
    (hstart : ∀ j, p.wire.data = some j → StartOK (dumps j) = true)
    (hwf : WFCore p = true) :
    Spec.parse loads (Spec.frame dumps p).1 = .ok (p.wire, (Spec.frame dumps p).2.length) := by
  have hatt : p.nattField.isSome = isBinType p.type := by
    rw [nattField_eq]; cases isBinType p.type <;> rfl
  rw [spec_frame_eq, ← nattField_getD]
  show _ = Except.ok ((⟨p.type, normNs p.nsp, p.id, p.wire.data⟩ : Packet), _)
  cases hw : p.wire.data with
  | none => exact spec_parse_hdr loads (wfHdr_nattField hwf) hatt (fun _ _ h => nomatch h)
  | some j =>
    have hs := hstart j hw
    show Spec.parse loads (_ ++ dumps j) = _
    rw [spec_parse_hdr loads (wfHdr_nattField hwf) hatt (fun _ _ h => startOK_cons (h ▸ hs))]
    cases hd : dumps j with
    | nil => rw [hd] at hs; cases hs
    | cons c r => simp only [specTail]; rw [← hd, hrt j hw]

end Sio
