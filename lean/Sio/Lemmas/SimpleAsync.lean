/-
  asyncio variant of the SimpleClient hand-off model (K9): every step is a block of steps of the
  thread variant, so the invariants carry over; the consumer's block always ends at a suspension
  point; and what the one-block execution of the consumer adds.
-/
import Sio.Lemmas.Simple
namespace Sio.Simple

/-! ### every step is a block of thread steps -/

theorem consRun_is_run (fuel : Nat) (s : State) : ∃ l, Async.consRun fuel s = run s l := by
  induction fuel generalizing s with
  | zero => exact ⟨[], rfl⟩
  | succ n ih =>
    unfold Async.consRun
    split
    · exact ⟨[], rfl⟩
    · obtain ⟨l, hl⟩ := ih (consStep s true)
      exact ⟨.cons true :: l, by rw [hl]; rfl⟩

theorem astep_is_run (s : State) (c : Choice) : ∃ l, Async.step s c = run s l := by
  cases c with
  | prod => exact ⟨[.prod, .prod], rfl⟩
  | cons ok =>
    obtain ⟨l, hl⟩ := consRun_is_run Async.fuel (consStep s ok)
    exact ⟨.cons ok :: l, by simp only [Async.step]; rw [hl]; rfl⟩
  | timeout => exact ⟨[.timeout], rfl⟩
  | conn k =>
    cases k with
    | connect => exact ⟨[.conn .connect, .conn .connect], rfl⟩
    | disconnect => exact ⟨[.conn .disconnect], rfl⟩
    | final => exact ⟨[.conn .final, .conn .final], rfl⟩
  | start op => exact ⟨[.start op], rfl⟩

theorem arun_is_run (sched : List Choice) (s : State) : ∃ l, Async.run s sched = run s l := by
  induction sched generalizing s with
  | nil => exact ⟨[], rfl⟩
  | cons c cs ih =>
    obtain ⟨l1, h1⟩ := astep_is_run s c
    obtain ⟨l2, h2⟩ := ih (Async.step s c)
    refine ⟨l1 ++ l2, ?_⟩
    rw [run_append, ← h1, ← h2]
    rfl

theorem inv_areach (sched : List Choice) : Inv (Async.run init sched) := by
  obtain ⟨l, hl⟩ := arun_is_run sched init
  rw [hl]
  exact inv_reach l

/-! ### the consumer's block ends at a suspension point -/

/-- An upper bound on the number of steps the consumer task makes before it next stops: at most one
    lap of the receive loop, preceded by the rest of a lap if `input_event` is set (r4 clears it). -/
def rank (s : State) : Nat :=
  if Async.stop s then 0 else
  match s.cpc with
  | .e2 | .r5 => 1
  | .e1w | .r2b => 2
  | .e1 => 3
  | .r4 => 7
  | .r3w => 8
  | .r3 => if s.iev then 8 else 1
  | .r2 => if s.iev then 9 else 3
  | .r1w => if s.iev then 10 else 4
  | .r1 => if s.iev then 11 else 5
  | .r0 => if s.iev then 12 else 6
  | .idle | .e3 => 0

theorem rank_consStep {s : State} (h : Async.stop s = false) : rank (consStep s true) < rank s := by
  obtain ⟨buf, iev, cev, conn, ppc, kpc, cpc, tmo, woken, arrived, returned, signalled, seen, fresh,
    ended, recon, endedRd, revived, log⟩ := s
  cases cpc
  case idle | e3 => cases h
  case r0 => cases buf <;> cases iev <;> exact Nat.le_of_ble_eq_true rfl
  case r1 => cases cev <;> cases iev <;> exact Nat.le_of_ble_eq_true rfl
  case r2 => cases conn <;> cases iev <;> exact Nat.le_of_ble_eq_true rfl
  case r2b | r5 => cases buf <;> exact Nat.le_of_ble_eq_true rfl
  case r3 => cases iev <;> exact Nat.le_of_ble_eq_true rfl
  case r4 => exact Nat.le_of_ble_eq_true rfl
  case e1 => cases cev <;> exact Nat.le_of_ble_eq_true rfl
  case e2 => cases conn <;> exact Nat.le_of_ble_eq_true rfl
  case r1w | r3w | e1w =>
    -- parked: not notified is a stop, notified goes on
    cases woken
    · cases h
    · cases iev <;> exact Nat.le_of_ble_eq_true rfl

theorem consRun_stops_of_rank : ∀ (n : Nat) (s : State), rank s ≤ n → Async.stop (Async.consRun n s) = true
  | n, s, h => by
    cases hs : Async.stop s
    · have hr := rank_consStep hs
      match n with
      | 0 => exact absurd (Nat.lt_of_lt_of_le hr h) (Nat.not_lt_zero _)
      | n + 1 =>
        rw [Async.consRun, hs]
        exact consRun_stops_of_rank n _ (Nat.le_of_lt_succ (Nat.lt_of_lt_of_le hr h))
    · cases n <;> simp only [Async.consRun, hs, if_true]

theorem rank_le (s : State) : rank s ≤ Async.fuel := by
  unfold rank
  split
  · exact Nat.zero_le _
  · split <;> (try split) <;> decide

/-- the fuel of `Async.consRun` is never what ends a block: from ANY state the consumer reaches a
    suspension point (call over, awaiting client.emit, or parked and not notified) within it. -/
theorem consRun_stops (s : State) : Async.stop (Async.consRun Async.fuel s) = true :=
  consRun_stops_of_rank _ s (rank_le s)

/-! ### `self.connected` is read and the buffer tested within one block

In the thread variant a connection handler can run between the read of `self.connected` (r2) and the
test of the buffer (r2b); in the asyncio variant there is no await between them, so a
DisconnectedError of `receive()` is raised in a state in which `connected` is (still) false. -/

/-- every DisconnectedError of receive() so far was raised with `connected = False`, and the consumer
    is not between the read and the buffer test with `connected = True` -/
def RdOK (s : State) : Prop :=
  (∀ e ∈ s.log, e.1 = Outcome.disconnectedErr → e.2.pc = .r2b → e.2.conn = false) ∧
  (s.cpc = .r2b → s.conn = false)

/-- `RdOK` at the boundary of a block, where the consumer is never between the read and the test -/
def RdOKB (s : State) : Prop := RdOK s ∧ s.cpc ≠ .r2b

theorem RdOK.of_log {s s' : State} (h : RdOK s) (hc : s'.cpc = .r2b → s'.conn = false)
    (hl : s'.log = s.log ∨ ∃ o, s'.log = s.log ++ [(o, view s)]) : RdOK s' := by
  refine ⟨fun e he ho hp => ?_, hc⟩
  rcases hl with hl | ⟨o, hl⟩ <;> rw [hl] at he
  · exact h.1 e he ho hp
  · rcases List.mem_append.mp he with he | he
    · exact h.1 e he ho hp
    · cases List.mem_singleton.mp he
      exact h.2 hp

theorem rdok_cons {s : State} (ok : Bool) (h : RdOK s) : RdOK (consStep s ok) :=
  have ⟨hconn, hr2b, hlog, _⟩ := consStep_frame s ok
  h.of_log (fun hc => hconn ▸ (hr2b hc).2) hlog

theorem rdok_consRun (fuel : Nat) {s : State} (h : RdOK s) : RdOK (Async.consRun fuel s) := by
  induction fuel generalizing s with
  | zero => exact h
  | succ n ih =>
    unfold Async.consRun
    split
    · exact h
    · exact ih (rdok_cons true h)

theorem stop_not_r2b {s : State} (h : Async.stop s = true) : s.cpc ≠ .r2b := by
  intro hc
  simp [Async.stop, blocked, hc] at h

theorem RdOKB.env {s : State} (h : RdOKB s) (c : Choice) (hc : isEnv c = true) : RdOKB (step s c) :=
  have ⟨hpc, hlog, _⟩ := env_step hc s
  have h2 : (step s c).cpc ≠ .r2b := hpc ▸ h.2
  ⟨h.1.of_log (fun hh => absurd hh h2) (.inl hlog), h2⟩

theorem ard_astep {s : State} (c : Choice) (h : RdOKB s) : RdOKB (Async.step s c) := by
  cases c with
  | prod => exact (h.env .prod rfl).env .prod rfl
  | cons ok => exact ⟨rdok_consRun _ (rdok_cons ok h.1), stop_not_r2b (consRun_stops _)⟩
  | timeout =>
    simp only [Async.step, timeoutStep]
    split
    · exact ⟨h.1.of_log nofun (.inr ⟨_, rfl⟩), nofun⟩
    · exact h
  | conn k =>
    cases k with
    | disconnect => exact h.env (.conn .disconnect) rfl
    | connect => exact (h.env (.conn .connect) rfl).env (.conn .connect) rfl
    | final => exact (h.env (.conn .final) rfl).env (.conn .final) rfl
  | start op =>
    simp only [Async.step, startStep]
    split
    · cases op <;> exact ⟨h.1.of_log nofun (.inl rfl), nofun⟩
    · exact h

theorem ard_areach (sched : List Choice) : RdOK (Async.run init sched) :=
  (List.foldlRecOn (motive := RdOKB) sched Async.step (b := init) ⟨⟨fun _ he => (nomatch he), nofun⟩, nofun⟩
    fun _ h c _ => ard_astep c h).1

end Sio.Simple
