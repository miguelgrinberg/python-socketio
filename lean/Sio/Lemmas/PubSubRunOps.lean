/-
  K6 (pub/sub), any consumption schedule: the invariant every run keeps (`Running`) and the counting
  argument behind "each emit reaches each client at most once": copies of `ev` shown to a client
  plus copies still owed to it never exceed one per emit of `ev`.
-/
import Sio.Lemmas.PubSubStep
namespace Sio.PubSub
open Sio.Rooms

theorem find_map_mem (L : List Host) (g : Host → Host) (hg : ∀ h ∈ L, (g h).id = h.id) (x : HostId) :
    (L.map g).find? (fun h => h.id = x) = (L.find? (fun h => h.id = x)).map g := by
  induction L with
  | nil => rfl
  | cons a l ih =>
    simp only [List.map_cons, List.find?_cons]
    rw [hg a List.mem_cons_self]
    split
    · rfl
    · exact ih (fun h hh => hg h (List.mem_cons_of_mem _ hh))

theorem find_map_id (hosts : List Host) (g : Host → Host) (hg : ∀ h, (g h).id = h.id) (x : HostId) :
    (hosts.map g).find? (fun h => h.id = x) = (hosts.find? (fun h => h.id = x)).map g :=
  find_map_mem hosts g (fun h _ => hg h) x

theorem find_mem {hosts : List Host} {x : HostId} {h : Host}
    (hf : hosts.find? (fun h => h.id = x) = some h) : h ∈ hosts ∧ h.id = x :=
  ⟨List.mem_of_find?_eq_some hf, of_decide_eq_true (List.find?_some hf :)⟩

theorem find_of_mem {hosts : List Host} (hnd : (hosts.map Host.id).Nodup) {h : Host} (hh : h ∈ hosts) :
    hosts.find? (fun x => x.id = h.id) = some h := by
  cases hq : hosts.find? (fun x => x.id = h.id) with
  | none => exact absurd (decide_eq_true rfl) (List.find?_eq_none.mp hq h hh)
  | some a => rw [eq_of_map_eq hnd (find_mem hq).1 hh (find_mem hq).2]

theorem find_none_of_not_mem {hosts : List Host} {x : HostId} (hx : x ∉ hosts.map Host.id) :
    hosts.find? (fun h => h.id = x) = none :=
  List.find?_eq_none.mpr fun _ hh he => hx (of_decide_eq_true he ▸ List.mem_map_of_mem hh)

theorem countP_drop_append {α : Type} (p : α → Bool) (a b : List α) (n : Nat) (hn : n ≤ a.length) :
    ((a ++ b).drop n).countP p = (a.drop n).countP p + b.countP p := by
  rw [List.drop_append_of_le_length hn, List.countP_append]

theorem drop_length_take {α : Type} (l : List α) (k : Nat) : l.drop (l.take k).length = l.drop k :=
  (congrArg (List.drop (l.take k).length) (List.take_append_drop k l).symm).trans List.drop_left

def isEv (ev : Str) : Seen → Bool
  | .event _ (.str e) _ _ => e == ev
  | _ => false

/-- how often a client has seen the event called `ev` -/
def evCount (ev : Str) (l : List Seen) : Nat := l.countP (isEv ev)

/-- a channel entry that host `hid` will apply as an emit of `ev` -/
def isEmitEv (ev : Str) (hid : HostId) : Msg → Bool
  | .emit o e _ _ _ _ _ => e == ev && !(o == hid)
  | _ => false

theorem evCount_append (ev : Str) (a b : List Seen) : evCount ev (a ++ b) = evCount ev a + evCount ev b :=
  List.countP_append

theorem evCount_seenEmit_le (ev : Str) (r : Rooms.St) (ns : Ns) (t : Target) (skip : List Sid) (e : Str)
    (args : List J) (w : Bool) (sid : Sid) :
    evCount ev (seenEmit r ns t skip (.str e) args w sid) ≤ if e = ev then 1 else 0 := by
  unfold seenEmit
  split
  · by_cases he : e = ev <;> simp [evCount, isEv, he]
  · simp [evCount]

theorem homeOk_roomsAfter {home : Sid → HostId} {hid : HostId} {r : Rooms.St} (h : HomeOk home hid r)
    (m : Msg) : HomeOk home hid (roomsAfter hid r m) := by
  cases m with
  | emit => exact h
  | callback => exact h
  | enterRoom o sid ns room =>
    simp only [roomsAfter]; split
    · exact h
    · split
      · rename_i hq; exact h.add hq _
      · exact h
  | _ =>
    simp only [roomsAfter]; split
    · exact h
    · exact h.filter _

theorem homeOk_roomsAfterL {home : Sid → HostId} {hid : HostId} {r : Rooms.St} (h : HomeOk home hid r)
    (ms : List Msg) : HomeOk home hid (roomsAfterL hid r ms) := by
  induction ms generalizing r with
  | nil => exact h
  | cons m ms ih => exact ih (homeOk_roomsAfter h m)

theorem seenEmit_nil_of_elsewhere {home : Sid → HostId} {hid : HostId} {r : Rooms.St}
    (hr : Inv r) (hh : HomeOk home hid r) {sid : Sid} (hne : home sid ≠ hid) (ns : Ns) (t : Target)
    (skip : List Sid) (ev : J) (args : List J) (w : Bool) :
    seenEmit r ns t skip ev args w sid = [] := by
  unfold seenEmit
  rw [if_neg]
  intro hc
  have hm := ((mem_recipients_iff hr ns t skip sid).mp hc).1
  obtain ⟨eio, he⟩ := isMember_iff.mp hm
  exact hne (hh _ he)

/-- what a batch shows a client: at most one copy of `ev` per foreign emit of `ev` in the batch,
    and nothing at all on a host where the client does not live -/
theorem evCount_seenAfterL_le {home : Sid → HostId} (ev : Str) (hid : HostId) (r : Rooms.St)
    (hr : Inv r) (hh : HomeOk home hid r) (sid : Sid) (ms : List Msg) :
    evCount ev (seenAfterL hid r sid ms) ≤
      if home sid = hid then ms.countP (isEmitEv ev hid) else 0 := by
  induction ms generalizing r with
  | nil => simp [seenAfterL, evCount]
  | cons m ms ih =>
    have ih' := ih (roomsAfter hid r m) (inv_roomsAfter hid hr m) (homeOk_roomsAfter hh m)
    have h1 : evCount ev (seenAfter hid r sid m) ≤
        if home sid = hid then (if isEmitEv ev hid m = true then 1 else 0) else 0 := by
      cases m with
      | emit o e d ns to skip cb =>
        simp only [seenAfter, isEmitEv]
        by_cases ho : o = hid
        · simp [ho, evCount]
        · rw [if_neg ho]
          by_cases hhome : home sid = hid
          · have := evCount_seenEmit_le ev r ns to skip.toList e d.pack cb.isSome sid
            rw [if_pos hhome]
            by_cases he : e = ev <;> simpa [he, ho] using this
          · rw [if_neg hhome, seenEmit_nil_of_elsewhere hr hh hhome]; exact Nat.le_refl 0
      | disconnect o sid' ns =>
        simp only [seenAfter]
        split
        · simp [evCount]
        · split <;> simp [evCount, isEv]
      | _ => simp [seenAfter, evCount]
    simp only [seenAfterL, evCount_append, List.countP_cons]
    by_cases hhome : home sid = hid
    · rw [if_pos hhome] at h1 ih' ⊢; omega
    · rw [if_neg hhome] at h1 ih' ⊢; omega

/-- what every run keeps, whatever the schedule -/
structure Running (home : Sid → HostId) (c : Cluster) : Prop where
  ids : (c.hosts.map Host.id).Nodup
  inv : ∀ h ∈ c.hosts, Inv h.rooms
  home : ∀ h ∈ c.hosts, HomeOk home h.id h.rooms
  cur : ∀ h ∈ c.hosts, h.cursor ≤ c.chan.length
  chanOk : EmitsOk c.chan
  woRooms : c.wo.rooms = []

def Cluster.host (c : Cluster) (hid : HostId) : Option Host := c.hosts.find? (fun h => h.id = hid)

/-- copies of `ev` that the host of `sid` has not consumed yet -/
def pendingEv (home : Sid → HostId) (ev : Str) (sid : Sid) (c : Cluster) : Nat :=
  match c.host (home sid) with
  | none => 0
  | some h => (c.chan.drop h.cursor).countP (isEmitEv ev h.id)

/-- An API call (or a `deliver`) `f` on the host `hid`: `Running` is kept, and the copies of `ev`
    shown to `sid` plus those still owed do not exceed the budget `B` of the call plus those owed
    before. -/
theorem on_once {home : Sid → HostId} (c : Cluster) (hrun : Running home c) (hid : HostId)
    (f : Host → Res) (ev : Str) (sid : Sid) (B : Nat)
    (hf_id : ∀ h ∈ c.hosts, (f h).h.id = h.id)
    (hf_inv : ∀ h ∈ c.hosts, h.id = hid → Inv (f h).h.rooms ∧ HomeOk home h.id (f h).h.rooms)
    (hf_pubs : ∀ h ∈ c.hosts, EmitsOk (f h).pubs)
    (hf_cur : ∀ h ∈ c.hosts, (f h).h.cursor ≤ c.chan.length)
    (hf_here : ∀ h ∈ c.hosts, home sid = h.id →
      evCount ev (seenBy sid (f h).outs) +
        ((c.chan ++ (f h).pubs).drop (f h).h.cursor).countP (isEmitEv ev h.id) ≤
      B + (c.chan.drop h.cursor).countP (isEmitEv ev h.id))
    (hf_else : ∀ h ∈ c.hosts, home sid ≠ h.id →
      evCount ev (seenBy sid (f h).outs) = 0 ∧ ∀ x, (f h).pubs.countP (isEmitEv ev x) ≤ B) :
    Running home (c.on hid f).1 ∧
    evCount ev (seenBy sid (c.on hid f).2) + pendingEv home ev sid (c.on hid f).1 ≤
      B + pendingEv home ev sid c := by
  by_cases hex : hid ∈ c.hosts.map Host.id
  · obtain ⟨hv, hin, rfl⟩ := List.mem_map.mp hex
    obtain ⟨hchan, hout⟩ := on_mem c f hrun.ids hin
    have hhosts := on_hosts c f hv.id
    have hgid : ∀ h : Host, h ∈ c.hosts → (if h.id = hv.id then (f h).h else h).id = h.id := by
      intro h hh; split
      · exact hf_id h hh
      · rfl
    refine ⟨⟨?_, ?_, ?_, ?_, ?_, hrun.woRooms⟩, ?_⟩
    · rw [hhosts, List.map_map, List.map_congr_left (f := Host.id ∘ _) (g := Host.id) hgid]; exact hrun.ids
    · rw [hhosts, List.forall_mem_map]
      intro h hh
      split
      · rename_i he; exact (hf_inv h hh he).1
      · exact hrun.inv h hh
    · rw [hhosts, List.forall_mem_map]
      intro h hh
      split
      · rename_i he; rw [hf_id h hh]; exact (hf_inv h hh he).2
      · exact hrun.home h hh
    · rw [hhosts, List.forall_mem_map]
      intro h hh
      rw [hchan, List.length_append]
      split
      · have := hf_cur h hh; omega
      · have := hrun.cur h hh; omega
    · rw [hchan]; exact hrun.chanOk.append (hf_pubs hv hin)
    · -- the counting
      rw [hout]
      have hhost' : (c.on hv.id f).1.host (home sid) =
          (c.host (home sid)).map (fun h => if h.id = hv.id then (f h).h else h) := by
        unfold Cluster.host
        rw [hhosts]
        exact find_map_mem c.hosts _ hgid _
      unfold pendingEv
      rw [hhost', hchan]
      cases hq : c.host (home sid) with
      | none =>
        simp only [Option.map_none]
        have hne : home sid ≠ hv.id := by
          intro he
          have := find_of_mem hrun.ids hin
          unfold Cluster.host at hq
          rw [he, this] at hq; cases hq
        rw [(hf_else hv hin hne).1]
        omega
      | some hs =>
        obtain ⟨hsin, hsid⟩ := find_mem hq
        simp only [Option.map_some]
        by_cases he : hs.id = hv.id
        · have : hs = hv := eq_of_map_eq hrun.ids hsin hin he
          subst this
          rw [if_pos rfl, hf_id hs hin]
          exact hf_here hs hin hsid.symm
        · rw [if_neg he]
          have hne : home sid ≠ hv.id := by rw [← hsid]; exact he
          rw [(hf_else hv hin hne).1, countP_drop_append _ _ _ _ (hrun.cur hs hsin)]
          have := (hf_else hv hin hne).2 hs.id
          omega
  · -- no such host: nothing happens
    obtain ⟨hhosts, hchan, hout⟩ := on_not_mem c f hex
    refine ⟨⟨hhosts ▸ hrun.ids, hhosts ▸ hrun.inv, hhosts ▸ hrun.home,
      hhosts ▸ hchan ▸ hrun.cur, hchan ▸ hrun.chanOk, hrun.woRooms⟩, ?_⟩
    rw [hout]
    unfold pendingEv Cluster.host
    rw [hhosts, hchan]
    simp [seenBy, evCount]

/-- what a history must respect: a `connect` happens on the host where the session lives, emit
    targets are proper -/
def OpFine (home : Sid → HostId) : Op → Prop
  | .connect hid _ _ sid => home sid = hid
  | .emit _ _ _ _ to _ _ => Target.ok to
  | _ => True

/-- how many copies of `ev` an operation may add -/
def opBudget (ev : Str) : Op → Nat
  | .emit _ e _ _ _ _ _ => if e = ev then 1 else 0
  | _ => 0

section
variable {home : Sid → HostId}

/-- an API call that shows no client anything and publishes no emit -/
theorem on_quiet (c : Cluster) (hrun : Running home c) (hid : HostId) (f : Host → Res) (ev : Str)
    (sid : Sid) {news : List Sid} (hok : ∀ h, ApiOk h (f h) news)
    (hnews : ∀ s ∈ news, home s = hid)
    (hf_pubs : ∀ h x, (f h).pubs.countP (isEmitEv ev x) = 0)
    (hf_seen : ∀ h, evCount ev (seenBy sid (f h).outs) = 0) :
    Running home (c.on hid f).1 ∧
    evCount ev (seenBy sid (c.on hid f).2) + pendingEv home ev sid (c.on hid f).1 ≤
      0 + pendingEv home ev sid c := by
  refine on_once c hrun hid f ev sid 0 (fun h _ => (hok h).id) ?_
    (fun h _ => (hok h).pubsOk) ?_ ?_ ?_
  · intro h hh he
    exact ⟨(hok h).inv (hrun.inv h hh),
      (hok h).home (hrun.inv h hh) (hrun.home h hh) (fun s hs => he ▸ hnews s hs)⟩
  · intro h hh; rw [(hok h).cursor]; exact hrun.cur h hh
  · intro h hh _
    rw [hf_seen h, (hok h).cursor, countP_drop_append _ _ _ _ (hrun.cur h hh), hf_pubs h]
    omega
  · intro h _ _
    exact ⟨hf_seen h, fun x => by rw [hf_pubs h x]; omega⟩

/-- an API call that sends nothing and publishes room bookkeeping only -/
theorem on_silent (c : Cluster) (hrun : Running home c) (hid : HostId) (f : Host → Res) (ev : Str)
    (sid : Sid) {news : List Sid}
    (hok : ∀ h, ApiOk h (f h) news ∧ (f h).Silent)
    (hnews : ∀ s ∈ news, home s = hid) :
    Running home (c.on hid f).1 ∧
    evCount ev (seenBy sid (c.on hid f).2) + pendingEv home ev sid (c.on hid f).1 ≤
      0 + pendingEv home ev sid c := by
  refine on_quiet c hrun hid f ev sid (fun h => (hok h).1) hnews ?_ ?_
  · intro h x
    rw [List.countP_eq_zero]
    intro m hm
    have := (hok h).2.2 m hm
    cases m <;> first | exact Bool.false_ne_true | cases this
  · intro h; rw [(hok h).2.1]; rfl

theorem evCount_nil (ev : Str) : evCount ev [] = 0 := rfl

theorem apiEmit_bad (h : Host) (ev : Str) (d : Data) (ns : Ns) (to : Target) (skip : Skip) (tok : Nat)
    (hto : ∀ r, to ≠ .one r) :
    ∃ e, apiEmit h true ev d ns to skip (some tok) = { h := h, outs := [.raised e] } := by
  cases to with
  | all => exact ⟨.valueError, by simp [apiEmit]⟩
  | one r => exact absurd rfl (hto r)
  | many rs => exact ⟨.typeError, by simp [apiEmit]⟩

theorem countP_isEmitEv_emit (ev : Str) (x o : HostId) (e : Str) (d : Data) (ns : Ns) (to : Target)
    (skip : Skip) (cb : Option (Str × Ns × Nat)) :
    [Msg.emit o e d ns to skip cb].countP (isEmitEv ev x) ≤ if e = ev then 1 else 0 := by
  by_cases he : e = ev <;> simp [isEmitEv, he]
  split <;> simp

/-- what the counting needs of an `emit` of `e` through the host `h` -/
structure EmitOnce (home : Sid → HostId) (ev e : Str) (sid : Sid) (h : Host) (r : Res) : Prop where
  id : r.h.id = h.id
  rooms : r.h.rooms = h.rooms
  cursor : r.h.cursor = h.cursor
  pubsOk : EmitsOk r.pubs
  pubsLe : ∀ x, r.pubs.countP (isEmitEv ev x) ≤ if e = ev then 1 else 0
  pubsOwn : r.pubs.countP (isEmitEv ev h.id) = 0
  seenLe : evCount ev (seenBy sid r.outs) ≤ if e = ev then 1 else 0
  seenElse : home sid ≠ h.id → evCount ev (seenBy sid r.outs) = 0

theorem apiEmit_once (h : Host) (hinv : Inv h.rooms) (hh : HomeOk home h.id h.rooms) (e : Str)
    (d : Data) (ns : Ns) (to : Target) (skip : Skip) (cb : Option Nat) (hok : Target.ok to) (ev : Str)
    (sid : Sid) : EmitOnce home ev e sid h (apiEmit h true e d ns to skip cb) := by
  by_cases hcb : cb.isSome → ∃ r, to = .one r
  · obtain ⟨e1, e2, e3, e4, _, e6, _⟩ := apiEmit_effect h hinv e d ns to skip cb hok hcb
    refine ⟨e2, e1, e3, e4 ▸ .emit hok, fun x => e4 ▸ countP_isEmitEv_emit .., ?_, ?_, fun hne => ?_⟩
    · rw [e4]; simp [isEmitEv]
    · rw [e6 sid]; exact evCount_seenEmit_le ev h.rooms ns to skip.toList e d.pack cb.isSome sid
    · rw [e6 sid, seenEmit_nil_of_elsewhere hinv hh hne]; rfl
  · -- the call raises before it does anything
    cases cb with
    | none => exact absurd (fun hc => nomatch hc) hcb
    | some tok =>
      obtain ⟨er, hbad⟩ := apiEmit_bad h e d ns to skip tok (fun r hr => hcb fun _ => ⟨r, hr⟩)
      rw [hbad]
      exact ⟨rfl, rfl, rfl, EmitsOk.nil, fun x => Nat.zero_le _, rfl, Nat.zero_le _, fun _ => rfl⟩

end

theorem evCount_flatMap_le {home : Sid → HostId} (ev : Str) (sid : Sid) (hosts : List Host)
    (hnd : (hosts.map Host.id).Nodup) (G : Host → List Seen) (X : Host → Nat)
    (hG : ∀ h ∈ hosts, evCount ev (G h) ≤ if home sid = h.id then X h else 0) :
    evCount ev (hosts.flatMap G) ≤
      match hosts.find? (fun h => h.id = home sid) with
      | none => 0
      | some hs => X hs := by
  -- only the host where the client lives shows it anything called `ev`
  have hz : ∀ h ∈ hosts, home sid ≠ h.id → (G h).filter (isEv ev) = [] := by
    intro h hh hne
    have := hG h hh
    rw [if_neg hne] at this
    exact List.filter_eq_nil_iff.mpr (List.countP_eq_zero.mp (Nat.le_zero.mp this))
  unfold evCount
  rw [List.countP_eq_length_filter, List.filter_flatMap]
  cases hq : hosts.find? (fun h => h.id = home sid) with
  | none =>
    have hno := List.find?_eq_none.mp hq
    rw [List.flatMap_eq_nil_iff.mpr fun h hh => hz h hh fun he => hno h hh (by simpa using he.symm)]
    exact Nat.le_refl 0
  | some hs =>
    obtain ⟨hsin, hsid⟩ := find_mem hq
    rw [flatMap_congr' (g := fun h => if h.id = hs.id then (G h).filter (isEv ev) else []) fun h hh => by
        split
        · rfl
        · rename_i hne; exact hz h hh fun he => hne (he.symm.trans hsid.symm),
      flatMap_if_id hosts hnd hs hsin, ← List.countP_eq_length_filter]
    have := hG hs hsin
    rwa [if_pos hsid.symm] at this

theorem countP_isEmitEv_allCb {ms : List Msg} (h : AllCb ms) (ev : Str) (x : HostId) :
    ms.countP (isEmitEv ev x) = 0 := by
  rw [List.countP_eq_zero]
  intro m hm
  have := h m hm
  cases m <;> first | exact Bool.false_ne_true | cases this

section steps
variable {home : Sid → HostId}

/-- **Every operation keeps `Running` and respects the budget.** -/
theorem once_step (c : Cluster) (hrun : Running home c) (op : Op) (hop : OpFine home op) (ev : Str)
    (sid : Sid) :
    Running home (step c op).1 ∧
    evCount ev (seenBy sid (step c op).2) + pendingEv home ev sid (step c op).1 ≤
      opBudget ev op + pendingEv home ev sid c := by
  cases op with
  | connect hid ns eio sid' =>
    exact on_silent c hrun hid _ ev sid (fun h => apiConnect_ok h ns eio sid')
      (fun s hs => List.mem_singleton.mp hs ▸ hop)
  | enter via ns sid' room =>
    exact on_silent c hrun via _ ev sid (fun h => apiEnter_ok h ns sid' room) (fun _ hs => nomatch hs)
  | leave via ns sid' room =>
    exact on_silent c hrun via _ ev sid (fun h => apiLeave_ok h ns sid' room) (fun _ hs => nomatch hs)
  | close via ns room =>
    exact on_silent c hrun via _ ev sid (fun h => apiClose_ok h ns room) (fun _ hs => nomatch hs)
  | disconnect via ns sid' =>
    refine on_quiet c hrun via _ ev sid (fun h => apiDisconnect_ok h ns sid') (fun _ hs => nomatch hs) ?_ ?_
    · intro h x; unfold apiDisconnect; split
      · rw [(localDisconnect_obs h sid' ns).2.2.1]; rfl
      · rfl
    · intro h; unfold apiDisconnect; split
      · rw [(localDisconnect_obs h sid' ns).2.2.2.1 sid]; split <;> rfl
      · rfl
  | emit via e d ns to skip cb =>
    cases via with
    | some v =>
      have F := fun (h : Host) (hh : h ∈ c.hosts) =>
        apiEmit_once (home := home) h (hrun.inv h hh) (hrun.home h hh) e d ns to skip cb hop ev sid
      refine on_once c hrun v _ ev sid (opBudget ev (.emit (some v) e d ns to skip cb))
        (fun h hh => (F h hh).id) ?_ (fun h hh => (F h hh).pubsOk) ?_ ?_ ?_
      · intro h hh _
        rw [(F h hh).rooms]; exact ⟨hrun.inv h hh, hrun.home h hh⟩
      · intro h hh; rw [(F h hh).cursor]; exact hrun.cur h hh
      · intro h hh _
        rw [(F h hh).cursor, countP_drop_append _ _ _ _ (hrun.cur h hh), (F h hh).pubsOwn]
        have := (F h hh).seenLe
        simp only [opBudget]
        omega
      · intro h hh hne
        exact ⟨(F h hh).seenElse hne, (F h hh).pubsLe⟩
    | none =>
      -- the write-only manager: no clients, so nothing is sent; a callback makes it raise
      obtain ⟨h1, h3, h4, h5⟩ : (apiEmit c.wo false e d ns to skip cb).h.rooms = [] ∧
          seenBy sid (apiEmit c.wo false e d ns to skip cb).outs = [] ∧
          EmitsOk (apiEmit c.wo false e d ns to skip cb).pubs ∧
          ∀ x, (apiEmit c.wo false e d ns to skip cb).pubs.countP (isEmitEv ev x) ≤
            if e = ev then 1 else 0 := by
        cases cb with
        | none =>
          rw [apiEmit_wo c.wo hrun.woRooms e d ns to skip hop]
          exact ⟨hrun.woRooms, rfl, .emit hop, fun x => countP_isEmitEv_emit ..⟩
        | some tok =>
          rw [show apiEmit c.wo false e d ns to skip (some tok) = { h := c.wo, outs := [.raised .other] }
            by simp [apiEmit]]
          exact ⟨hrun.woRooms, rfl, EmitsOk.nil, fun x => Nat.zero_le _⟩
      refine ⟨⟨hrun.ids, hrun.inv, hrun.home, fun h hh => ?_, hrun.chanOk.append h4, h1⟩, ?_⟩
      · show h.cursor ≤ (c.chan ++ _).length
        have := hrun.cur h hh
        rw [List.length_append]; omega
      · show evCount ev (seenBy sid (apiEmit c.wo false e d ns to skip cb).outs) + pendingEv home ev sid
          { c with wo := _, chan := c.chan ++ (apiEmit c.wo false e d ns to skip cb).pubs } ≤ _
        rw [h3]
        unfold pendingEv Cluster.host
        cases hq : c.hosts.find? (fun h => h.id = home sid) with
        | none => exact Nat.zero_le _
        | some hs =>
          show 0 + List.countP _ (List.drop hs.cursor (c.chan ++ _)) ≤ _
          rw [countP_drop_append _ _ _ _ (hrun.cur hs (find_mem hq).1)]
          have := h5 hs.id
          simp only [opBudget]
          omega
  | ack ns sid' n args =>
    rcases step_ack c ns sid' n args with hr | ⟨hv, _, i, hr⟩ <;> rw [hr]
    · exact ⟨hrun, Nat.le_refl _⟩
    · have heff := fun (h : Host) => apiAck_effect h sid' i args
      refine on_quiet c hrun hv.id _ ev sid (fun h => apiAck_ok h sid' i args) (fun _ hs => nomatch hs) ?_ ?_
      · exact fun h => countP_isEmitEv_allCb (heff h).pubs ev
      · intro h
        rw [(heff h).seen sid]; rfl
  | deliver hid k =>
    have A := fun (h : Host) (hh : h ∈ c.hosts) => deliverOn_applied c.chan k h (hrun.inv h hh) hrun.chanOk
    have hlen : ∀ h : Host, h ∈ c.hosts → h.cursor + ((c.chan.drop h.cursor).take k).length ≤ c.chan.length := by
      intro h hh
      have := hrun.cur h hh
      simp only [List.length_take, List.length_drop]; omega
    have hseen := fun (h : Host) (hh : h ∈ c.hosts) =>
      (A h hh).seen sid ▸ evCount_seenAfterL_le (home := home) ev h.id h.rooms (hrun.inv h hh)
        (hrun.home h hh) sid ((c.chan.drop h.cursor).take k)
    refine on_once c hrun hid (deliverOn c.chan k) ev sid 0 (fun h hh => (A h hh).id) ?_
      (fun h hh => .of_allCb (A h hh).pubs) hlen ?_ ?_
    · intro h hh _
      rw [(A h hh).rooms]
      exact ⟨inv_roomsAfterL h.id (hrun.inv h hh) _, homeOk_roomsAfterL (hrun.home h hh) _⟩
    · intro h hh hhome
      have hb := hseen h hh
      rw [if_pos hhome] at hb
      have hsplit := congrArg (List.countP (isEmitEv ev h.id)) (List.take_append_drop k (c.chan.drop h.cursor))
      rw [List.countP_append, ← drop_length_take (c.chan.drop h.cursor) k, List.drop_drop] at hsplit
      show _ + ((c.chan ++ _).drop (h.cursor + _)).countP _ ≤ _
      rw [countP_drop_append _ _ _ _ (hlen h hh), countP_isEmitEv_allCb (A h hh).pubs]
      omega
    · intro h hh hne
      have hb := hseen h hh
      rw [if_neg hne] at hb
      exact ⟨by omega, fun x => by rw [countP_isEmitEv_allCb (A h hh).pubs]; omega⟩
  | drain =>
    obtain ⟨⟨B, hB, hBeq⟩, e2, e3, e4, _⟩ :=
      drainHosts_effect c.chan c.hosts (fun h => c.chan.drop h.cursor) hrun.inv hrun.cur hrun.chanOk
        fun _ _ => rfl
    have hhosts : (step c .drain).1.hosts = (drainHosts c.chan c.hosts).1 := rfl
    have hchan : (step c .drain).1.chan = (drainHosts c.chan c.hosts).2.2 := rfl
    have hout : (step c .drain).2 = (drainHosts c.chan c.hosts).2.1 := rfl
    have hview : ∀ h' ∈ (drainHosts c.chan c.hosts).1, ∃ h ∈ c.hosts, h'.id = h.id ∧
        h'.rooms = roomsAfterL h.id h.rooms (c.chan.drop h.cursor) := by
      intro h' hh'
      have := List.mem_map_of_mem (f := Host.view) hh'
      rw [e2] at this
      obtain ⟨h, hh, heq⟩ := List.mem_map.mp this
      exact ⟨h, hh, (congrArg Prod.fst heq).symm, (congrArg Prod.snd heq).symm⟩
    refine ⟨⟨?_, ?_, ?_, ?_, ?_, hrun.woRooms⟩, ?_⟩
    · have := congrArg (List.map Prod.fst) e2
      simp only [List.map_map] at this
      rw [hhosts, show List.map Host.id _ = _ from this]; exact hrun.ids
    · intro h' hh'
      obtain ⟨h, hh, _, hr⟩ := hview h' hh'
      rw [hr]; exact inv_roomsAfterL h.id (hrun.inv h hh) _
    · intro h' hh'
      obtain ⟨h, hh, hi, hr⟩ := hview h' hh'
      rw [hr, hi]; exact homeOk_roomsAfterL (hrun.home h hh) _
    · exact fun h' hh' => (e3 h' hh').1
    · rw [hchan, hBeq]; exact hrun.chanOk.append (.of_allCb hB)
    · -- afterwards nothing but callbacks is pending; what was shown was owed
      have hpend' : pendingEv home ev sid (step c .drain).1 = 0 := by
        unfold pendingEv Cluster.host
        rw [hhosts, hchan]
        cases hq : (drainHosts c.chan c.hosts).1.find? (fun h => h.id = home sid) with
        | none => rfl
        | some hs => exact countP_isEmitEv_allCb (e3 hs (find_mem hq).1).2 ev hs.id
      have := evCount_flatMap_le (home := home) ev sid c.hosts hrun.ids
        (fun h => seenAfterL h.id h.rooms sid (c.chan.drop h.cursor))
        (fun h => (c.chan.drop h.cursor).countP (isEmitEv ev h.id))
        (fun h hh => evCount_seenAfterL_le ev h.id h.rooms (hrun.inv h hh) (hrun.home h hh) sid _)
      rw [hout, e4 sid, hpend']
      exact Nat.le_trans this (Nat.le_add_left _ _)

end steps

end Sio.PubSub
