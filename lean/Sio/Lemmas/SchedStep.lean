/-
  K5 (Sio/Model/Sched.lean): what one step does.  `Step a sh t t' sh'` lists the moves of a task,
  `stepTask_spec` says that `stepTask` makes one of them; the lemmas of SchedPhase and Sched about
  steps are proved by case analysis over `Step`.
-/
import Sio.Model.Sched
namespace Sio.Sched

@[simp] theorem upd_same {α : Type} (f : Ns → α) (n : Ns) (v : α) : upd f n v n = v := by simp [upd]

/-- the shared state after `pre_disconnect(sid, n)` by a task of kind `k` that found `rooms[n]` -/
def marked (sh : Shared) (k : Kind) (n : Ns) : Shared :=
  { sh with pend := upd sh.pend n (sh.pend n + 1), marks := upd sh.marks n (k :: sh.marks n) }

/-- the step of a task at pc `p` executes `pre_disconnect`: from `mark`, or straight from a successful
    `check` when the gate is atomic -/
def Gate (a : Bool) (sh : Shared) (p : Pc) (n : Ns) : Prop :=
  p = .mark ∨ (p = .check ∧ a = true ∧ connected sh n = true)

/-- The moves of one task: `Step a sh t t' sh'` = in shared state `sh` task `t` may become `t'`,
    leaving `sh'`.  `n` is the task's current namespace. -/
inductive Step (a : Bool) (sh : Shared) : Task → Task → Shared → Prop
  | chandler (k todo) : Step a sh ⟨k, todo, .chandler⟩ ⟨k, todo, chNext k⟩ sh
  | csend (k todo) : Step a sh ⟨k, todo, .csend⟩ ⟨k, todo, .done⟩ sh
  | checkNil (k) : Step a sh ⟨k, [], .check⟩ ⟨k, [], .done⟩ sh
  | checkFail (k n rest) : connected sh n = false →
      Step a sh ⟨k, n :: rest, .check⟩ (advance ⟨k, n :: rest, .check⟩ rest) sh
  | window (k n rest) : a = false → connected sh n = true →
      Step a sh ⟨k, n :: rest, .check⟩ ⟨k, n :: rest, .mark⟩ sh
  | gate (k n rest p) : Gate a sh p n → alive sh n = true →
      Step a sh ⟨k, n :: rest, p⟩ ⟨k, n :: rest, afterMark k⟩ (marked sh k n)
  /-- `KeyError` inside `_handle_eio_disconnect`'s `try` -/
  | gateSwallowed (n rest p) : Gate a sh p n → alive sh n = false →
      Step a sh ⟨.lost, n :: rest, p⟩ (advance ⟨.lost, n :: rest, p⟩ rest)
        { marked sh .lost n with contained := sh.contained + 1 }
  | gateRaised (k n rest p) : Gate a sh p n → alive sh n = false → k ≠ .lost →
      Step a sh ⟨k, n :: rest, p⟩ ⟨k, n :: rest, .raised⟩ (marked sh k n)
  | send (k n rest) : k ≠ .refuse →
      Step a sh ⟨k, n :: rest, .send⟩ ⟨k, n :: rest, .handler⟩
        { sh with sends := upd sh.sends n (sh.sends n + 1) }
  | refusal (n rest) :
      Step a sh ⟨.refuse, n :: rest, .send⟩ ⟨.refuse, n :: rest, .cleanup⟩
        { sh with refusals := upd sh.refusals n (sh.refusals n + 1) }
  | handler (k n rest) :
      Step a sh ⟨k, n :: rest, .handler⟩ ⟨k, n :: rest, .cleanup⟩
        { sh with calls := upd sh.calls n (k :: sh.calls n) }
  | cleanup (k n rest) : alive sh n = true →
      Step a sh ⟨k, n :: rest, .cleanup⟩ (advance ⟨k, n :: rest, .cleanup⟩ rest)
        { sh with mem := upd sh.mem n false, pend := upd sh.pend n (sh.pend n - 1) }
  /-- `basic_disconnect` returns at once when `n ∉ rooms` -/
  | cleanupGone (k n rest) : alive sh n = false →
      Step a sh ⟨k, n :: rest, .cleanup⟩ (advance ⟨k, n :: rest, .cleanup⟩ rest) sh
  /-- finished tasks, and the unreachable ones past `check` without a namespace, do not move -/
  | idle (t) : (t.pc = .done ∨ t.pc = .raised ∨
      (t.todo = [] ∧ (t.pc = .mark ∨ t.pc = .send ∨ t.pc = .handler ∨ t.pc = .cleanup))) →
      Step a sh t t sh

theorem markStep_spec {a : Bool} {sh : Shared} {k : Kind} {n : Ns} {rest : List Ns} {p : Pc}
    (hg : Gate a sh p n) :
    Step a sh ⟨k, n :: rest, p⟩ (markStep sh ⟨k, n :: rest, p⟩ n rest).1
      (markStep sh ⟨k, n :: rest, p⟩ n rest).2 := by
  unfold markStep
  cases ha : alive sh n with
  | true => exact .gate k n rest p hg ha
  | false =>
    by_cases hk : k = .lost
    · subst hk; exact .gateSwallowed n rest p hg ha
    · simp only [Bool.false_eq_true, if_false, hk]; exact .gateRaised k n rest p hg ha hk

theorem stepTask_spec (a : Bool) (sh : Shared) (t : Task) :
    Step a sh t (stepTask a sh t).1 (stepTask a sh t).2 := by
  obtain ⟨k, todo, pc⟩ := t
  cases todo with
  | nil =>
    cases pc with
    | chandler => exact .chandler k []
    | csend => exact .csend k []
    | check => exact .checkNil k
    | _ => exact .idle _ (by simp)
  | cons n rest =>
    cases pc with
    | chandler => exact .chandler k _
    | csend => exact .csend k _
    | check =>
      simp only [stepTask]
      cases hc : connected sh n with
      | false => exact .checkFail k n rest hc
      | true =>
        cases a with
        | true => exact markStep_spec (.inr ⟨rfl, rfl, hc⟩)
        | false => exact .window k n rest rfl hc
    | mark => exact markStep_spec (.inl rfl)
    | send =>
      simp only [stepTask]
      by_cases hk : k = .refuse
      · subst hk; exact .refusal n rest
      · simp only [hk, if_false]; exact .send k n rest hk
    | handler => exact .handler k n rest
    | cleanup =>
      simp only [stepTask]
      cases ha : alive sh n with
      | true => exact .cleanup k n rest ha
      | false => exact .cleanupGone k n rest ha
    | _ => exact .idle _ (by simp)

theorem step_spec (a : Bool) (st : St) (i : Nat) :
    step a st i = st ∨ ∃ t t' sh', st.tasks[i]? = some t ∧ Step a st.sh t t' sh' ∧
      step a st i = ⟨st.tasks.set i t', sh'⟩ := by
  unfold step
  cases h : st.tasks[i]? with
  | none => exact .inl rfl
  | some t => exact .inr ⟨t, _, _, rfl, stepTask_spec a st.sh t, rfl⟩

theorem forall_mem_set {α : Type} {P : α → Prop} {l : List α} (h : ∀ u ∈ l, P u) {x : α} (hx : P x)
    (i : Nat) : ∀ u ∈ l.set i x, P u :=
  fun u hu => (List.mem_or_eq_of_mem_set hu).elim (h u) (· ▸ hx)

theorem countP_set_of_eq {α : Type} (p : α → Bool) {l : List α} {i : Nat} {t : α} (t' : α)
    (h : l[i]? = some t) (e : p t' = p t) : (l.set i t').countP p = l.countP p := by
  obtain ⟨hi, rfl⟩ := List.getElem?_eq_some_iff.mp h
  have := List.boole_getElem_le_countP (p := p) hi
  rw [List.countP_set hi, e]; omega

theorem getElem?_set_cases {α : Type} {l : List α} {i j : Nat} {x u : α}
    (h : (l.set j x)[i]? = some u) : l[i]? = some u ∨ (i = j ∧ u = x) := by
  rw [List.getElem?_set] at h
  split at h
  · split at h
    · exact .inr ⟨‹j = i›.symm, (Option.some.inj h).symm⟩
    · cases h
  · exact .inl h

theorem step_induction {P : St → Prop} {a : Bool}
    (h : ∀ st i t t' sh', st.tasks[i]? = some t → Step a st.sh t t' sh' → P st →
      P ⟨st.tasks.set i t', sh'⟩) (st : St) (i : Nat) (hP : P st) : P (step a st i) := by
  rcases step_spec a st i with e | ⟨t, t', sh', hi, hs, e⟩ <;> rw [e]
  · exact hP
  · exact h st i t t' sh' hi hs hP

theorem run_induction {P : St → Prop} {a : Bool} (hs : ∀ st i, P st → P (step a st i))
    (sched : List Nat) (st : St) (h : P st) : P (run a st sched) := by
  induction sched generalizing st with
  | nil => exact h
  | cons i r ih => exact ih _ (hs st i h)

theorem run_append (a : Bool) (st : St) (s1 s2 : List Nat) :
    run a st (s1 ++ s2) = run a (run a st s1) s2 :=
  List.foldl_append ..

theorem run_snoc (a : Bool) (st : St) (s : List Nat) (j : Nat) :
    run a st (s ++ [j]) = step a (run a st s) j :=
  run_append a st s [j]

theorem snoc_induction {α : Type} {P : List α → Prop} (h0 : P [])
    (hs : ∀ l x, P l → P (l ++ [x])) (l : List α) : P l := by
  rw [← List.reverse_reverse l]
  induction l.reverse with
  | nil => exact h0
  | cons x l ih => rw [List.reverse_cons]; exact hs _ _ ih

/-- the part of the shared state that concerns namespace `n` -/
def SameAt (sh' sh : Shared) (n : Ns) : Prop :=
  sh'.mem n = sh.mem n ∧ sh'.pend n = sh.pend n ∧ sh'.calls n = sh.calls n ∧
  sh'.refusals n = sh.refusals n ∧ sh'.marks n = sh.marks n

namespace SameAt

theorem refl (sh : Shared) (n : Ns) : SameAt sh sh n := ⟨rfl, rfl, rfl, rfl, rfl⟩

theorem trans {a b c : Shared} {n : Ns} (h1 : SameAt a b n) (h2 : SameAt b c n) : SameAt a c n :=
  ⟨h1.1.trans h2.1, h1.2.1.trans h2.2.1, h1.2.2.1.trans h2.2.2.1, h1.2.2.2.1.trans h2.2.2.2.1,
   h1.2.2.2.2.trans h2.2.2.2.2⟩

end SameAt

namespace Step
variable {a : Bool} {sh sh' : Shared} {t t' : Task}

theorem kind (h : Step a sh t t' sh') : t'.kind = t.kind := by cases h <;> rfl

theorem mem_todo (h : Step a sh t t' sh') {n : Ns} (hn : n ∈ t'.todo) : n ∈ t.todo := by
  cases h with
  | checkFail | gateSwallowed | cleanup | cleanupGone => exact List.mem_cons_of_mem _ hn
  | _ => exact hn

theorem sameAt (h : Step a sh t t' sh') {n : Ns} (hn : some n ≠ t.todo.head?) : SameAt sh' sh n := by
  cases h <;> simp_all [SameAt, marked, upd]

/-- one step changes `marks n` only by a task whose current namespace is `n` pushing its own kind -/
theorem marks (h : Step a sh t t' sh') (n : Ns) :
    sh'.marks n = sh.marks n ∨ (t.todo.head? = some n ∧ sh'.marks n = t.kind :: sh.marks n) := by
  by_cases hn : t.todo.head? = some n
  · cases h <;> simp_all [marked]
  · exact .inl (h.sameAt (Ne.symm hn)).2.2.2.2

/-- a step changes `calls n` only by a task at its handler pc of `n` pushing its own kind -/
theorem calls (h : Step a sh t t' sh') (n : Ns) :
    sh'.calls n = sh.calls n ∨
    (t.todo.head? = some n ∧ t.pc = .handler ∧ sh'.calls n = t.kind :: sh.calls n) := by
  by_cases hn : t.todo.head? = some n
  · cases h <;> simp_all [marked]
  · exact .inl (h.sameAt (Ne.symm hn)).2.2.1

end Step

end Sio.Sched
