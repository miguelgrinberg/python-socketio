/-
  C01 — packet level: `decode ∘ encode`, the attachment hand-back, the constructor.
-/
import Sio.Lemmas.CodecBin
import Sio.Lemmas.CodecHdr
namespace Sio

variable {cls : Char → DC}

theorem bodyOK_of_startOK (hcls : AsciiCls cls) {nsp : Option Str} {id natt : Option Nat} {s : Str}
    (h : StartOK s = true) : BodyOK cls nsp id natt s = true := by
  cases s with
  | nil => rfl
  | cons c r =>
    simp only [StartOK, Bool.and_eq_true, decide_eq_true_eq, Bool.not_eq_eq_eq_not, Bool.not_true,
      bne_iff_ne, ne_eq] at h
    obtain ⟨⟨⟨h1, h2⟩, h3⟩, h4⟩ := h
    exact bodyOK_cons.mpr ⟨cls_not_isDigit_of_ascii hcls h1 h2, fun _ _ => h4, fun _ _ _ => h3⟩

theorem startOK_ne_nil {s : Str} (h : StartOK s = true) : s.isEmpty = false := by
  cases s with
  | nil => cases h
  | cons _ _ => rfl

theorem addAttachment_more {pk : Packet} {need : Nat} {got : List J} (b : J)
    (h : got.length + 1 < need) :
    addAttachment ⟨pk, need, got⟩ b = .ok (.more ⟨pk, need, got ++ [b]⟩) := by
  have h1 : ¬ need ≤ got.length := by omega
  have h2 : ¬ need = got.length + 1 := by omega
  simp [addAttachment, h1, h2]; rfl

theorem addAttachment_extra {pk : Packet} {need : Nat} {got : List J} (b : J)
    (h : need ≤ got.length) : addAttachment ⟨pk, need, got⟩ b = .error .valueError := by
  simp [addAttachment, h]

theorem addAttachment_last {pk : Packet} {need : Nat} {got : List J} (b : J) {d r : J}
    (h : got.length + 1 = need) (hd : pk.data = some d) (hr : recon (got ++ [b]) d = .ok r) :
    addAttachment ⟨pk, need, got⟩ b = .ok (.complete { pk with data := some r }) := by
  subst h
  simp [addAttachment, hd, hr, Functor.map, Except.map]

theorem feed_all {pk : Packet} {d r : J} (hd : pk.data = some d) (bs got : List J) (hne : bs ≠ [])
    {need : Nat} (hn : need = got.length + bs.length) (hr : recon (got ++ bs) d = .ok r) :
    feed ⟨pk, need, got⟩ bs = .ok (.inr { pk with data := some r }) := by
  induction bs generalizing got with
  | nil => exact absurd rfl hne
  | cons b bs ih =>
    cases bs with
    | nil => rw [feed, addAttachment_last b (by simpa using hn.symm) hd hr]; rfl
    | cons b' rest =>
      rw [feed, addAttachment_more b (by simp at hn; omega)]
      exact ih (got ++ [b]) (by simp) (by simp at hn ⊢; omega) (by simpa using hr)

theorem isBinType_cases {t : Nat} (h : isBinType t = true) : t = 5 ∨ t = 6 := by
  simp only [isBinType, BINARY_EVENT, BINARY_ACK, Bool.or_eq_true] at h
  rcases h with h | h
  · exact Or.inl (of_decide_eq_true h)
  · exact Or.inr (of_decide_eq_true h)

/-- The attachments of a packet: the byte strings of the payload of a binary type. -/
def Packet.atts (p : Packet) : List Bytes :=
  if isBinType p.type then (match p.data with | some j => binLeaves j | none => []) else []

section
variable {dumps : J → Str} {loads : Str → Except Err J}

/- Three kinds of packet: of a plain type, of a binary type without payload, of a binary type with
   payload `j`.  The lemmas of this section split along these. -/
section kinds
attribute [local simp] Packet.nattField Packet.wire Packet.norm Packet.atts

theorem encode_eq (dumps : J → Str) (p : Packet) :
    encode dumps p = (encodeHdr p.type p.nsp p.id p.nattField
      ++ (match p.wire.data with | some j => dumps j | none => []),
      if isBinType p.type then some p.atts else none) := by
  obtain ⟨t, nsp, id, data⟩ := p
  cases hb : isBinType t with
  | false => cases data <;> simp [encode, hb]
  | true =>
    cases data with
    | none => simp [encode, hb]
    | some j => simp [encode, hb, decon_snd]

theorem encode_atts (dumps : J → Str) (p : Packet) : (encode dumps p).2.getD [] = p.atts := by
  rw [encode_eq]; unfold Packet.atts; cases isBinType p.type <;> rfl

theorem nattField_eq (p : Packet) :
    p.nattField = if isBinType p.type then some p.atts.length else none := by
  unfold Packet.nattField Packet.atts
  split
  · cases p.data <;> rfl
  · rfl

theorem nattField_getD (p : Packet) : p.nattField.getD 0 = p.atts.length := by
  rw [nattField_eq]; unfold Packet.atts; cases isBinType p.type <;> rfl

theorem wire_of_atts_nil {p : Packet} (h : p.atts = []) : p.wire = p.norm := by
  obtain ⟨t, nsp, id, data⟩ := p
  cases hb : isBinType t with
  | false => simp [hb]
  | true =>
    cases data with
    | none => simp [hb]
    | some j =>
      have hl : binLeaves j = [] := by simpa [hb] using h
      simp [hb, decon_noBin j [] ((noBin_iff_leaves j).mpr hl)]

theorem data_of_atts_ne {p : Packet} (h : p.atts ≠ []) :
    ∃ j, p.data = some j ∧ p.atts = binLeaves j ∧ p.wire.data = some (decon j []).1 := by
  obtain ⟨t, nsp, id, data⟩ := p
  cases hb : isBinType t with
  | false => exact absurd (by simp [hb]) h
  | true =>
    cases data with
    | none => exact absurd (by simp [hb]) h
    | some j => exact ⟨j, rfl, by simp [hb], by simp [hb]⟩

theorem wire_data_cases {p : Packet} {j : J} (h : p.wire.data = some j) :
    (isBinType p.type = false ∧ p.data = some j) ∨
    ∃ j', p.data = some j' ∧ j = (decon j' []).1 := by
  obtain ⟨t, nsp, id, data⟩ := p
  cases hb : isBinType t with
  | false => exact .inl ⟨rfl, by simpa [hb] using h⟩
  | true =>
    cases data with
    | none => simp [hb] at h
    | some j' => exact .inr ⟨j', rfl, by simpa [hb, eq_comm] using h⟩

end kinds

theorem decode_of_hdr {s : Str} {h : Hdr} (hh : decodeHdr cls s = .ok h) :
    decode cls loads s = (do
      let d ← (if h.rest.isEmpty then pure none else do let j ← loads h.rest; pure (some j))
      pure (⟨h.type, h.nsp, h.id, d⟩, h.natt)) := by
  simp only [decode, hh]; rfl

theorem wfCore_unpack {p : Packet} (h : WFCore p = true) :
    WFHdr p.type p.nsp p.id none = true ∧
    optAll NoReservedKey p.data = true ∧ (isBinType p.type = true ∨ optAll NoBin p.data = true) ∧
    optAll (fun j => decide ((binLeaves j).length < 10 ^ 10)) p.data = true := by
  simp only [WFCore, Bool.and_eq_true, Bool.or_eq_true] at h
  obtain ⟨⟨⟨h1, h3⟩, h4⟩, h5⟩ := h
  exact ⟨h1, h3, h4, h5⟩

theorem wfHdr_nattField {p : Packet} (h : WFCore p = true) :
    WFHdr p.type p.nsp p.id p.nattField = true := by
  obtain ⟨hh, _, _, hlen⟩ := wfCore_unpack h
  unfold Packet.nattField
  split
  · simp only [WFHdr, Bool.and_eq_true, decide_eq_true_eq] at hh ⊢
    refine ⟨hh.1, ?_⟩
    cases hd : p.data with
    | none => decide
    | some j => simpa [hd, optAll] using hlen
  · exact hh

theorem wf_core {p : Packet} (h : WF p = true) : WFCore p = true := by
  simp only [WF, Bool.and_eq_true] at h; exact h.1

/-- The JSON layer enters only at the one value that is printed: the wire payload. -/
theorem decode_encode (hcls : AsciiCls cls) {p : Packet}
    (hrt : ∀ j, p.wire.data = some j → loads (dumps j) = .ok j)
    (hbody : ∀ j, p.wire.data = some j → PayloadOK cls p (dumps j) = true)
    (hwf : WFCore p = true) :
    decode cls loads (encode dumps p).1 = .ok (p.wire, ((encode dumps p).2.getD []).length) := by
  rw [encode_atts, ← nattField_getD, encode_eq]
  show _ = Except.ok ((⟨p.type, normNs p.nsp, p.id, p.wire.data⟩ : Packet), _)
  cases hw : p.wire.data with
  | none =>
    rw [decode_of_hdr (hdr_roundtrip_lem hcls (wfHdr_nattField hwf) rfl)]; rfl
  | some j =>
    have := hbody j hw
    simp only [PayloadOK, Bool.and_eq_true, Bool.not_eq_eq_eq_not, Bool.not_true] at this
    rw [decode_of_hdr (hdr_roundtrip_lem hcls (wfHdr_nattField hwf) this.2)]
    simp only [this.1, hrt j hw]; rfl

theorem payloadOK_of_startOK (hcls : AsciiCls cls) (p : Packet) {s : Str} (h : StartOK s = true) :
    PayloadOK cls p s = true := by
  simp [PayloadOK, startOK_ne_nil h, bodyOK_of_startOK hcls h]

theorem recon_wire {p : Packet} (hwf : WFCore p = true) {j : J} (hd : p.data = some j) :
    recon ((binLeaves j).map J.bin) (decon j []).1 = .ok j := by
  obtain ⟨_, hres, _, _⟩ := wfCore_unpack hwf
  simp only [hd, optAll] at hres
  simpa [decon_snd] using recon_decon_gen j [] [] hres

theorem feed_encode {p : Packet} (hwf : WFCore p = true) :
    feed ⟨p.wire, ((encode dumps p).2.getD []).length, []⟩ (((encode dumps p).2.getD []).map J.bin)
      = .ok (if (encode dumps p).2.getD [] = [] then .inl ⟨p.norm, 0, []⟩ else .inr p.norm) := by
  rw [encode_atts]
  by_cases h : p.atts = []
  · rw [h, wire_of_atts_nil h]; rfl
  · obtain ⟨j, hd, ha, hw⟩ := data_of_atts_ne h
    rw [feed_all hw (p.atts.map J.bin) [] (by simpa using h) (by simp)
      (by simpa [ha] using recon_wire hwf hd), if_neg h]
    simp [Packet.wire, Packet.norm, hd]

theorem wire_json_hyps {p : Packet} (hwf : WF p = true) {j : J} (h : p.wire.data = some j) :
    NoBin j = true ∧ TopOK j = true := by
  obtain ⟨_, _, hbin, _⟩ := wfCore_unpack (wf_core hwf)
  have htop : optAll TopOK p.data = true := by simp only [WF, Bool.and_eq_true] at hwf; exact hwf.2
  rcases wire_data_cases h with ⟨hb, hd⟩ | ⟨j', hd, rfl⟩
  · simpa [hb, hd, optAll] using And.intro hbin htop
  · exact ⟨noBin_decon j' [], topOK_decon j' [] (by simpa [hd, optAll] using htop)⟩

end

theorem wf_of_mkPacket {t : Nat} {d : Option J} {nsp : Option Str} {id : Option Nat} {p : Packet}
    (hargs : WFArgs t d nsp id = true) (hmk : mkPacket true t d nsp id none = .ok p) :
    WF p = true := by
  simp only [WFArgs, Bool.and_eq_true] at hargs
  obtain ⟨⟨⟨h1, h2⟩, h3⟩, h4⟩ := hargs
  have h1' := h1
  simp only [WFHdr, Bool.and_eq_true, decide_eq_true_eq] at h1'
  cases d with
  | none =>
    simp [mkPacket] at hmk; subst hmk
    simp [WF, WFCore, h1, optAll]
  | some j =>
    by_cases hb : j.isBinary = true
    · by_cases e1 : t = EVENT
      · simp [mkPacket, hb, e1] at hmk; subst hmk
        simp_all [WF, WFCore, WFHdr, isBinType, BINARY_EVENT, BINARY_ACK, EVENT]
      · by_cases e2 : t = ACK
        · subst e2
          simp [mkPacket, hb, ACK, EVENT] at hmk; subst hmk
          simp_all [WF, WFCore, WFHdr, isBinType, BINARY_EVENT, BINARY_ACK, ACK]
        · simp [mkPacket, hb, e1, e2] at hmk
    · simp [mkPacket, hb] at hmk; subst hmk
      have hnb : NoBin j = true := by simpa [isBinary_eq_not_noBin] using hb
      simp only [optAll] at h2 h3 h4
      simp [WF, WFCore, h1, h2, h3, h4, optAll, hnb]

/-- A JSON text that is not a number starts with one of `n t f " < [ {`, none of which can be
    mistaken for a header field. -/
theorem dumps_startOK (j : J) (h : TopOK j = true) : StartOK (J.dumps j) = true := by
  cases j with
  | null => decide +kernel
  | bool b => cases b <;> decide +kernel
  | int _ | flt _ => cases h
  | _ => rfl

end Sio
