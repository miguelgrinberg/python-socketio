/-
  C01 phase 2 — `J.loads (J.dumps j) = ok j`: the concrete JSON reader inverts the concrete
  printer on every tree without byte strings whose float literals are well-formed.
-/
import Sio.Lemmas.JsonStr
import Sio.Lemmas.JsonNum
import Sio.Lemmas.CodecPacket
namespace Sio
open JP

mutual
  /-- every float leaf carries a well-formed literal -/
  def FltLits : J → Bool
    | .flt l => FltOK l
    | .arr xs => FltLitsL xs
    | .obj kvs => FltLitsO kvs
    | _ => true
  def FltLitsL : List J → Bool
    | [] => true
    | x :: xs => FltLits x && FltLitsL xs
  def FltLitsO : List (Str × J) → Bool
    | [] => true
    | (_, x) :: xs => FltLits x && FltLitsO xs
end

/- The printer, equation by equation: by `rfl`, because the generated unfolding lemmas are slow; the
   characters of a literal are read off by `String.toList_ofList`, evaluating `toList` is slow too. -/

theorem dumps_null : J.dumps .null = ['n', 'u', 'l', 'l'] := String.toList_ofList
theorem dumps_true : J.dumps (.bool true) = ['t', 'r', 'u', 'e'] := String.toList_ofList
theorem dumps_false : J.dumps (.bool false) = ['f', 'a', 'l', 's', 'e'] := String.toList_ofList
theorem dumps_int (i : Int) : J.dumps (.int i) = intStr i := rfl
theorem dumps_flt (l : Str) : J.dumps (.flt l) = l := rfl
theorem dumps_str (s : Str) : J.dumps (.str s) = escStr s := rfl
theorem dumps_arr (xs : List J) : J.dumps (.arr xs) = '[' :: (J.dumpsL xs ++ [']']) := rfl
theorem dumps_obj (kvs : List (Str × J)) : J.dumps (.obj kvs) = '{' :: (J.dumpsO kvs ++ ['}']) := rfl
theorem dumpsL_nil : J.dumpsL [] = [] := rfl
theorem dumpsL_one (x : J) : J.dumpsL [x] = J.dumps x := rfl
theorem dumpsL_cons (x y : J) (xs : List J) :
    J.dumpsL (x :: y :: xs) = J.dumps x ++ (',' :: J.dumpsL (y :: xs)) := rfl
theorem dumpsO_nil : J.dumpsO [] = [] := rfl
theorem dumpsO_one (k : Str) (x : J) : J.dumpsO [(k, x)] = escStr k ++ (':' :: J.dumps x) := rfl
theorem dumpsO_cons (k : Str) (x : J) (y : Str × J) (xs : List (Str × J)) :
    J.dumpsO ((k, x) :: y :: xs) = escStr k ++ (':' :: J.dumps x) ++ (',' :: J.dumpsO (y :: xs)) := rfl

def mapOk {α : Type} (g : α → J) : Except Err (α × Str) → Except Err (J × Str)
  | .ok (a, r) => .ok (g a, r)
  | .error e => .error e

theorem value_str (f : Nat) (r : Str) :
    value (f + 1) ('"' :: r) = mapOk J.str (strBody none r) := by
  rw [value.eq_def]
  simp only [if_true]
  generalize strBody none r = x
  rcases x with _ | ⟨cs, t⟩ <;> rfl

theorem value_arr_nil (f : Nat) (r : Str) : value (f + 1) ('[' :: ']' :: r) = .ok (.arr [], r) := by
  rw [value.eq_def]; simp

theorem value_arr (f : Nat) (s : Str) (hs : s.head? ≠ some ']') :
    value (f + 1) ('[' :: s) = mapOk J.arr (elems f s) := by
  rw [value.eq_def]
  have : ('[' : Char) ≠ '"' := by decide
  simp only [this, if_false, if_true, hs]
  generalize elems f s = x
  rcases x with _ | ⟨cs, t⟩ <;> rfl

theorem value_obj_nil (f : Nat) (r : Str) : value (f + 1) ('{' :: '}' :: r) = .ok (.obj [], r) := by
  rw [value.eq_def]; simp

theorem value_obj (f : Nat) (s : Str) (hs : s.head? ≠ some '}') :
    value (f + 1) ('{' :: s) = mapOk J.obj (members f s) := by
  rw [value.eq_def]
  have h1 : ('{' : Char) ≠ '"' := by decide
  have h2 : ('{' : Char) ≠ '[' := by decide
  simp only [h1, h2, if_false, if_true, hs]
  generalize members f s = x
  rcases x with _ | ⟨cs, t⟩ <;> rfl

theorem value_null (f : Nat) (r : Str) :
    value (f + 1) ('n' :: 'u' :: 'l' :: 'l' :: r) = .ok (.null, r) := by
  rw [value.eq_def]; simp

theorem value_true (f : Nat) (r : Str) :
    value (f + 1) ('t' :: 'r' :: 'u' :: 'e' :: r) = .ok (.bool true, r) := by
  rw [value.eq_def]; simp

theorem value_false (f : Nat) (r : Str) :
    value (f + 1) ('f' :: 'a' :: 'l' :: 's' :: 'e' :: r) = .ok (.bool false, r) := by
  rw [value.eq_def]; simp

theorem value_num (f : Nat) {tok : Str} (rest : Str)
    (h : ∃ c r, tok = c :: r ∧ isNumChar c = true) :
    value (f + 1) (tok ++ rest) = number (tok ++ rest) := by
  obtain ⟨c, r, rfl, hc⟩ := h
  -- a number character is none of the six characters `value` dispatches on before
  have ne : ∀ d, isNumChar d = false → c ≠ d := fun _ => ne_of_true_of_false hc
  rw [List.cons_append, value.eq_def]
  simp only [ne '"' rfl, ne '[' rfl, ne '{' rfl, ne 'n' rfl, ne 't' rfl, ne 'f' rfl, hc, if_false,
    if_true]

theorem dumps_head_ne (j : J) (hb : NoBin j = true) (hf : FltLits j = true) (s : Str) :
    (J.dumps j ++ s).head? ≠ some ']' := by
  cases j with
  | null => simp [dumps_null]
  | bool b => cases b <;> simp [dumps_false, dumps_true]
  | int i =>
    obtain ⟨c, r, h, hc⟩ := intStr_cons i
    rw [dumps_int, h]; simpa using ne_of_true_of_false hc rfl
  | flt l =>
    obtain ⟨c, r, h, hc⟩ := fltOK_cons (by simpa [FltLits] using hf)
    rw [dumps_flt, h]; simpa using ne_of_true_of_false hc rfl
  | bin b => simp [NoBin] at hb
  | str _ => simp [dumps_str, escStr]
  | arr _ => simp [dumps_arr]
  | obj _ => simp [dumps_obj]

theorem dumpsL_head_ne (x : J) (xs : List J) (hb : NoBin x = true) (hf : FltLits x = true) (s : Str) :
    (J.dumpsL (x :: xs) ++ s).head? ≠ some ']' := by
  cases xs with
  | nil => exact dumps_head_ne x hb hf s
  | cons y ys => rw [dumpsL_cons, List.append_assoc]; exact dumps_head_ne x hb hf _

mutual
  theorem value_dumps (j : J) (hb : NoBin j = true) (hf : FltLits j = true) (f : Nat)
      (hlen : (J.dumps j).length < f) (rest : Str) (hr : delim rest = true) :
      value f (J.dumps j ++ rest) = .ok (j, rest) := by
    obtain ⟨g, rfl⟩ : ∃ g, f = g + 1 := ⟨f - 1, by omega⟩
    cases j with
    | null => rw [dumps_null]; exact value_null g rest
    | bool b =>
      cases b
      · rw [dumps_false]; exact value_false g rest
      · rw [dumps_true]; exact value_true g rest
    | int i => rw [dumps_int, value_num g rest (intStr_cons i)]; exact number_int i rest hr
    | flt l =>
      simp only [FltLits] at hf
      rw [dumps_flt, value_num g rest (fltOK_cons hf)]; exact number_flt l rest hf hr
    | str s => rw [dumps_str, escStr_append, value_str, strBody_flatMap]; rfl
    | bin b => simp [NoBin] at hb
    | arr xs =>
      simp only [NoBin, FltLits] at hb hf
      rw [dumps_arr] at hlen ⊢
      rw [List.cons_append, List.append_assoc]
      match xs, hb, hf, hlen with
      | [], _, _, _ => exact value_arr_nil g rest
      | x :: xs', hb, hf, hlen =>
        have hx := hb; have hfx := hf
        simp only [NoBinL, FltLitsL, Bool.and_eq_true] at hx hfx
        rw [value_arr g _ (dumpsL_head_ne x xs' hx.1 hfx.1 _), List.singleton_append,
          elems_dumps (x :: xs') (by simp) hb hf g (by simp at hlen; omega) rest]
        rfl
    | obj kvs =>
      simp only [NoBin, FltLits] at hb hf
      rw [dumps_obj] at hlen ⊢
      rw [List.cons_append, List.append_assoc]
      match kvs, hb, hf, hlen with
      | [], _, _, _ => exact value_obj_nil g rest
      | (k, x) :: kvs', hb, hf, hlen =>
        rw [value_obj g _ (by cases kvs' <;> simp [dumpsO_one, dumpsO_cons, escStr]),
          List.singleton_append,
          members_dumps ((k, x) :: kvs') (by simp) hb hf g (by simp at hlen; omega) rest]
        rfl
  /- the fuel bound has one more than `value_dumps`: this call also reads the closing bracket -/
  theorem elems_dumps (xs : List J) (hne : xs ≠ []) (hb : NoBinL xs = true)
      (hf : FltLitsL xs = true) (f : Nat) (hlen : (J.dumpsL xs).length + 1 < f) (rest : Str) :
      elems f (J.dumpsL xs ++ ']' :: rest) = .ok (xs, rest) := by
    obtain ⟨g, rfl⟩ : ∃ g, f = g + 1 := ⟨f - 1, by omega⟩
    match xs, hne, hb, hf, hlen with
    | [x], _, hb, hf, hlen =>
      simp only [NoBinL, FltLitsL, Bool.and_eq_true] at hb hf
      rw [dumpsL_one] at hlen ⊢
      rw [elems.eq_def]
      simp only [value_dumps x hb.1 hf.1 g (by omega) (']' :: rest) rfl]
    | x :: y :: ys, _, hb, hf, hlen =>
      simp only [NoBinL, FltLitsL, Bool.and_eq_true] at hb hf
      rw [dumpsL_cons] at hlen ⊢
      simp only [List.length_append, List.length_cons] at hlen
      rw [List.append_assoc, List.cons_append]
      rw [elems.eq_def]
      simp only [value_dumps x hb.1 hf.1 g (by omega) (',' :: _) rfl,
        elems_dumps (y :: ys) (by simp) (by simpa [NoBinL] using hb.2) (by simpa [FltLitsL] using hf.2)
          g (by omega) rest]
  theorem members_dumps (kvs : List (Str × J)) (hne : kvs ≠ []) (hb : NoBinO kvs = true)
      (hf : FltLitsO kvs = true) (f : Nat) (hlen : (J.dumpsO kvs).length + 1 < f) (rest : Str) :
      members f (J.dumpsO kvs ++ '}' :: rest) = .ok (kvs, rest) := by
    obtain ⟨g, rfl⟩ : ∃ g, f = g + 1 := ⟨f - 1, by omega⟩
    match kvs, hne, hb, hf, hlen with
    | [(k, x)], _, hb, hf, hlen =>
      simp only [NoBinO, FltLitsO, Bool.and_eq_true] at hb hf
      rw [dumpsO_one] at hlen ⊢
      simp only [List.length_append, List.length_cons] at hlen
      rw [List.append_assoc, List.cons_append, escStr_append]
      rw [members.eq_def]
      simp only [strBody_flatMap, value_dumps x hb.1 hf.1 g (by omega) ('}' :: rest) rfl]
    | (k, x) :: y :: ys, _, hb, hf, hlen =>
      simp only [NoBinO, FltLitsO, Bool.and_eq_true] at hb hf
      rw [dumpsO_cons] at hlen ⊢
      simp only [List.length_append, List.length_cons] at hlen
      rw [List.append_assoc, List.append_assoc, List.cons_append, List.cons_append, escStr_append]
      rw [members.eq_def]
      simp only [strBody_flatMap, value_dumps x hb.1 hf.1 g (by omega) (',' :: _) rfl,
        members_dumps (y :: ys) (by simp) (by cases y; simpa [NoBinO] using hb.2)
          (by cases y; simpa [FltLitsO] using hf.2) g (by omega) rest]
end

theorem loads_dumps_lem (j : J) (hb : NoBin j = true) (hf : FltLits j = true) :
    J.loads (J.dumps j) = .ok j := by
  have := value_dumps j hb hf ((J.dumps j).length + 1) (by omega) [] rfl
  simp only [List.append_nil] at this
  simp only [J.loads, this]

mutual
  theorem fltLits_decon (j : J) (acc : List Bytes) (h : FltLits j = true) :
      FltLits (decon j acc).1 = true := by
    cases j with
    | bin b => simp [decon, placeholder, FltLits, FltLitsO]
    | arr xs => simp only [FltLits] at h; simp [decon, FltLits, fltLitsL_deconL xs acc h]
    | obj kvs => simp only [FltLits] at h; simp [decon, FltLits, fltLitsO_deconO kvs acc h]
    | flt l => simpa [decon] using h
    | _ => simp [decon, FltLits]
  theorem fltLitsL_deconL (xs : List J) (acc : List Bytes) (h : FltLitsL xs = true) :
      FltLitsL (deconL xs acc).1 = true := by
    cases xs with
    | nil => simp [deconL, FltLitsL]
    | cons x xs =>
      simp only [FltLitsL, Bool.and_eq_true] at h
      simp [deconL, FltLitsL, fltLits_decon x acc h.1, fltLitsL_deconL xs _ h.2]
  theorem fltLitsO_deconO (kvs : List (Str × J)) (acc : List Bytes) (h : FltLitsO kvs = true) :
      FltLitsO (deconO kvs acc).1 = true := by
    match kvs with
    | [] => simp [deconO, FltLitsO]
    | (k, x) :: xs =>
      simp only [FltLitsO, Bool.and_eq_true] at h
      simp [deconO, FltLitsO, fltLits_decon x acc h.1, fltLitsO_deconO xs _ h.2]
end

theorem wire_fltLits {p : Packet} (h : optAll FltLits p.data = true) {j : J}
    (hw : p.wire.data = some j) : FltLits j = true := by
  rcases wire_data_cases hw with ⟨_, hd⟩ | ⟨j', hd, rfl⟩
  · simpa [hd, optAll] using h
  · exact fltLits_decon j' [] (by simpa [hd, optAll] using h)

end Sio
