/-
  K4 — the connection lifecycle (property C04).  The handler call of `_handle_connect` and of the
  disconnect path is separated from the state plumbing: `connectCall` / `discRes` say what the resolved
  handler contributes as a function of its scripted outcome alone, and one equation per path
  (`handleConnect_open`, `endSession_eq`) says what the server does with that.  Session ids never
  decrease / are never reused; what is left of a session after its end.
-/
import Sio.Lemmas.ServerEvent
namespace Sio.Server
open Sio.Rooms

/-- the rooms after `manager.connect` -/
def roomsAfterConnect (r : Rooms.St) (ns : Ns) (t : Eio) (sid : Sid) : Rooms.St :=
  Rooms.add (Rooms.add r ⟨ns, none, sid, t⟩) ⟨ns, some sid, sid, t⟩

theorem connect_of_not_connected {r : Rooms.St} {ns : Ns} {t : Eio} (h : sidOf r ns t = none)
    (sid : Sid) : Rooms.connect r ns t sid = some (roomsAfterConnect r ns t sid) := by
  unfold Rooms.connect; rw [h]; rfl

theorem handleConnect_refused_early (cfg : Cfg) (s : Srv) (t : Eio) (nsp : Option Str)
    (data : Option J)
    (h : isServed cfg (nsp.getD ['/']) = false ∨ (sidOf s.rooms (nsp.getD ['/']) t).isSome = true) :
    handleConnect cfg s t nsp data =
      (s, sendTo s (some t) (pktConnectError (nsp.getD ['/']) (.str "Unable to connect".toList))) := by
  have : (if isServed cfg (nsp.getD ['/']) = true then
      Rooms.connect s.rooms (nsp.getD ['/']) t (sidName s.nextSid) else none) = none := by
    rcases h with h | h
    · simp [h]
    · rw [connect_eq_none_iff.mpr h]; simp
  rw [handleConnect_eq, this]

theorem connect_cases (cfg : Cfg) (s : Srv) (t : Eio) (ns : Ns) :
    (isServed cfg ns = false ∨ (sidOf s.rooms ns t).isSome = true) ∨
      (isServed cfg ns = true ∧ sidOf s.rooms ns t = none) := by
  cases isServed cfg ns <;> cases sidOf s.rooms ns t <;> simp

/-- CONNECT from a transport engine.io never opened: `environ[eio_sid]` raises `KeyError` after
    `manager.connect` registered the session -/
theorem handleConnect_no_environ {s : Srv} (h : WF s) (cfg : Cfg) {t : Eio} {nsp : Option Str}
    (data : Option J)
    (hs : isServed cfg (nsp.getD ['/']) = true) (hn : sidOf s.rooms (nsp.getD ['/']) t = none)
    (ht : t ∉ s.socks) :
    handleConnect cfg s t nsp data =
      (connected s (roomsAfterConnect s.rooms (nsp.getD ['/']) t (sidName s.nextSid)),
        [.raised .keyError]) := by
  have hc : s.socks.contains t = false := by simpa using ht
  rw [handleConnect_eq, if_pos hs, connect_of_not_connected hn, h.envSocks]
  simp only [sendTo, hc, Bool.not_false, if_true, Bool.false_eq_true, if_false, ite_self, List.nil_append]

/-- `_handle_connect` for a served namespace on which the (open) transport has no session yet:
    `manager.connect` registers the session (`s1`), `o0` is the early CONNECT of `always_connect`,
    `k = connectCall …` is the handler call, and the branches of the Python code are:
    * `.error`: looking up the handler raised (`TypeError`), nothing is answered;
    * verdict `none`: the handler raised — the exception propagates, the session stays registered;
    * `some (true, _)`: no handler, or `success is not False` — CONNECT `{sid}` (unless sent early);
    * `some (false, why)`: returned `False` or raised `ConnectionRefusedError` — CONNECT_ERROR `why`
      (after an early CONNECT: DISCONNECT `why`), and `basic_disconnect` undoes the registration
      exactly (`refusedSt_eq`): only `nextSid` and the script counter have moved. -/
theorem handleConnect_open {s : Srv} (h : WF s) (cfg : Cfg) {t : Eio} {nsp : Option Str}
    (data : Option J)
    (hs : isServed cfg (nsp.getD ['/']) = true) (hn : sidOf s.rooms (nsp.getD ['/']) t = none)
    (ht : t ∈ s.socks) :
    handleConnect cfg s t nsp data =
      let ns := nsp.getD ['/']
      let sid := sidName s.nextSid
      let s1 := connected s (roomsAfterConnect s.rooms ns t sid)
      let o0 : List Out := if cfg.alwaysConnect then [.send t (pktConnect ns sid)] else []
      match resolve cfg.reg ns (.str "connect".toList) (.str sid :: authArgs data) with
      | .error _ => (s1, o0 ++ [.raised .typeError])
      | .ok r =>
        let k := connectCall (cfg.script.onConnect s.nConn) r
        match k.2.2 with
        | none => ({ s1 with nConn := s.nConn + k.2.1 }, o0 ++ k.1)
        | some (true, _) =>
          ({ s1 with nConn := s.nConn + k.2.1 },
            o0 ++ k.1 ++ if cfg.alwaysConnect then [] else [.send t (pktConnect ns sid)])
        | some (false, why) =>
          ({ s with nextSid := s.nextSid + 1, nConn := s.nConn + k.2.1 },
            o0 ++ k.1 ++ [.send t (if cfg.alwaysConnect then pktDisconnect ns (some why)
                                    else pktConnectError ns why)]) := by
  have hc := connect_of_not_connected hn (sidName s.nextSid)
  have henv : s.environ.contains t = true := by rw [h.envSocks]; exact List.contains_iff_mem.mpr ht
  have hsend : ∀ (s' : Srv) p, s'.socks = s.socks → sendTo s' (some t) p = [.send t p] :=
    fun s' p hq => sendTo_open (hq ▸ ht) p
  rw [handleConnect_eq, if_pos hs, hc]
  simp only [henv, hsend, Bool.not_true, Bool.false_eq_true, if_false]
  cases resolve cfg.reg (nsp.getD ['/']) (.str "connect".toList)
      (.str (sidName s.nextSid) :: authArgs data) with
  | error e => rfl
  | ok r =>
    dsimp only
    rcases connectCall (cfg.script.onConnect s.nConn) r with ⟨oi, k, _ | ⟨_ | _, why⟩⟩
    · rfl
    · have hrej : ∀ p, p = s.pending ∨ p = s.pending ++ [(nsp.getD ['/'], sidName s.nextSid)] →
          refusedSt s _ (nsp.getD ['/']) k p = { s with nextSid := s.nextSid + 1, nConn := s.nConn + k } :=
        fun p hp => (refusedSt_eq h.toWF0 hc k p).trans (by rcases hp with rfl | rfl <;> simp [h.pendingNil])
      cases cfg.alwaysConnect
      · exact Prod.ext (hrej _ (.inl rfl)) (by simp only [connectEnd, connected, hsend]; rfl)
      · exact Prod.ext (hrej _ (.inr rfl)) (by simp only [connectEnd, connected, hsend]; rfl)
    · simp only [connectEnd, connected, hsend]

theorem dispatch_disconnect (cfg : Cfg) (s : Srv) (t : Eio) {p : Packet} (n : Nat)
    (h : p.type = DISCONNECT) :
    dispatchPacket cfg s t p n =
      ((handleDisconnect cfg s t (p.nsp.getD ['/']) "client disconnect".toList).1,
        (handleDisconnect cfg s t (p.nsp.getD ['/']) "client disconnect".toList).2.1) := by
  unfold dispatchPacket
  simp [h, DISCONNECT, CONNECT]

theorem nextSid_mono {s : Srv} (h : WF s) (dec : Str → Except Err (Packet × Nat)) (cfg : Cfg)
    (is : List Input) : s.nextSid ≤ (run dec cfg s is).1.nextSid :=
  (Reach.run h dec cfg is).rel (R := fun a b => a.nextSid ≤ b.nextSid) (fun _ => Nat.le_refl _)
    (fun _ _ _ => Nat.le_trans) (fun _ _ hw p => (p.live hw).1)

theorem not_connected_of_not_live {s : Srv} (h : WF s) {sid : Sid} (hl : ¬ sidLive s.rooms sid)
    (ns : Ns) : isConnected s sid ns = false ∧ getRooms s.rooms ns sid = [] ∧
      ∀ to skip, sid ∉ (recipients s.rooms ns to skip).map Prod.fst := by
  have hno : ∀ e ∈ s.rooms, e.sid ≠ sid := fun e he heq => hl (heq ▸ sidLive_of_mem h.rooms he)
  refine ⟨?_, ?_, ?_⟩
  · unfold isConnected
    have : eioOf s.rooms ns sid = none :=
      eioOf_none_iff.mpr (fun eio he => hno _ he rfl)
    rw [this]; simp
  · unfold getRooms
    rw [List.filterMap_eq_nil_iff]
    intro e he
    have := hno e he
    simp [this]
  · intro to skip hm
    simp only [List.mem_map] at hm
    obtain ⟨p, hp, rfl⟩ := hm
    obtain ⟨room, he⟩ := mem_participants (List.mem_filter.mp hp).1
    exact hno _ he rfl

end Sio.Server
