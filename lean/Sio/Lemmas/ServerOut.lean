/-
  K4 — what the handlers output: which transport a `send` goes to, which session id an `invoke`
  carries, where a `callback` can come from.
-/
import Sio.Lemmas.ServerStep
namespace Sio.Server
open Sio.Rooms

/-- which branch of the `if`-chain of `_get_event_handler` produced `r` -/
theorem ifchain {c1 c2 c3 c4 : Bool} {e : Err} {r1 r2 r : Resolved}
    (h : (if c1 = true then
            if c2 = true then Except.error e
            else if c3 = true then Except.ok (some r1)
            else if c4 = true then Except.ok (some r2) else Except.ok none
          else (Except.ok none : Except Err (Option Resolved))) = Except.ok (some r)) :
    c1 = true ∧ (r = r1 ∧ c3 = true ∨ r = r2 ∧ c4 = true) := by
  cases c1 <;> cases c2 <;> cases c3 <;> cases c4 <;> simp at h <;> simp [h]

/-- Every result of `resolve reg ns ev args`, with the test that selected it.  `n` is the namespace
    `ns` itself (`pre = []`) or the catch-all namespace `*` (then the namespace is passed first). -/
inductive ResolveCase (reg : Registry) (ns : Ns) (ev : J) (args : List J) : Resolved → Prop
  /-- `handlers[n][event]` -/
  | fn {n pre} : (n = ns ∧ pre = [] ∨ n = star ∧ pre = [.str ns]) → reg.fnNs n = true →
      inDict (reg.fn n) ev = true →
      ResolveCase reg ns ev args (.fn (.fn n ((evStr ev).getD [])) (pre ++ args))
  /-- `handlers[n]['*']`: the event comes first -/
  | fnStar {n pre} : (n = ns ∧ pre = [] ∨ n = star ∧ pre = [.str ns]) → reg.fnNs n = true →
      reg.fn n star = true → ResolveCase reg ns ev args (.fn (.fn n star) (ev :: pre ++ args))
  /-- method `on_<event>` of the class-based namespace registered for `n` -/
  | cls {n pre m} : (n = ns ∧ pre = [] ∨ n = star ∧ pre = [.str ns]) → reg.cls n = true →
      (m = "on_".toList ∨ ∃ s, evStr ev = some s ∧ m = "on_".toList ++ s) →
      ResolveCase reg ns ev args (.clsCall (.cls n m) (pre ++ args))
  | clsNoMethod : ResolveCase reg ns ev args .clsNoMethod
  | notHandled : ResolveCase reg ns ev args .notHandled

theorem resolveCase {reg : Registry} {ns : Ns} {ev : J} {args : List J} {r : Resolved}
    (h : resolve reg ns ev args = .ok r) : ResolveCase reg ns ev args r := by
  unfold resolve at h
  dsimp only at h
  split at h
  · cases h
  · rename_i h1
    cases h
    obtain ⟨hc, h2⟩ := ifchain h1
    rw [Bool.and_eq_true] at hc
    rcases h2 with ⟨rfl, h3⟩ | ⟨rfl, h3⟩ <;> rw [Bool.and_eq_true] at h3
    · exact .fn (pre := []) (.inl ⟨rfl, rfl⟩) hc.2 h3.2
    · exact .fnStar (pre := []) (.inl ⟨rfl, rfl⟩) hc.2 h3.2
  · split at h
    · cases h
    · rename_i h1
      cases h
      obtain ⟨hc, h2⟩ := ifchain h1
      rcases h2 with ⟨rfl, h3⟩ | ⟨rfl, h3⟩ <;> rw [Bool.and_eq_true] at h3
      · exact .fn (pre := [_]) (.inr ⟨rfl, rfl⟩) hc h3.2
      · exact .fnStar (pre := [_]) (.inr ⟨rfl, rfl⟩) hc h3.2
    · split at h
      · cases h; exact .notHandled
      · rename_i cns cargs ht
        have hc : ∃ pre, cargs = pre ++ args ∧ (cns = ns ∧ pre = [] ∨ cns = star ∧ pre = [.str ns]) ∧
            reg.cls cns = true := by
          split at ht
          · rename_i hq; cases ht; exact ⟨[], rfl, .inl ⟨rfl, rfl⟩, (Bool.and_eq_true .. ▸ hq).2⟩
          · split at ht
            · rename_i hq; cases ht; exact ⟨[_], rfl, .inr ⟨rfl, rfl⟩, hq⟩
            · cases ht
        obtain ⟨pre, rfl, hn, hcl⟩ := hc
        split at h
        · split at h
          · cases h
          · rename_i s hs
            split at h <;> cases h
            · exact .cls hn hcl (.inr ⟨s, hs, rfl⟩)
            · exact .clsNoMethod
        · split at h <;> cases h
          · exact .cls hn hcl (.inl rfl)
          · exact .clsNoMethod

/-- the arguments a resolved handler is called with end with the arguments given to `resolve` -/
theorem resolve_target {reg : Registry} {ns : Ns} {ev : J} {args : List J} {r : Resolved}
    {slot : Slot} {a : List J} (h : resolve reg ns ev args = .ok r) (ht : r.target = some (slot, a)) :
    ∃ pre, a = pre ++ args := by
  cases resolveCase h with
  | fn | cls => cases ht; exact ⟨_, rfl⟩
  | fnStar => cases ht; exact ⟨_ :: _, rfl⟩
  | clsNoMethod | notHandled => cases ht

/-- an output that stays with transport `t`: a packet for `t`, a handler invocation whose
    arguments satisfy `ok`, or a contained exception — never a callback, result or timeout -/
def Out.confined (t : Eio) (ok : List J → Prop) : Out → Prop
  | .send t' _ => t' = t
  | .invoke _ a => ok a
  | .raised _ => True
  | _ => False

theorem Out.confined.mono {t : Eio} {ok ok' : List J → Prop} (h : ∀ a, ok a → ok' a) {o : Out}
    (ho : o.confined t ok) : o.confined t ok' := by
  cases o <;> simp_all [Out.confined]

theorem mem_sendTo {s : Srv} {t : Option Eio} {p : Packet} {o : Out} (h : o ∈ sendTo s t p) :
    ∃ t', t = some t' ∧ t' ∈ s.socks ∧ o = .send t' p := by
  unfold sendTo at h
  split at h
  · rename_i t'
    split at h
    · rename_i hc
      simp at h
      exact ⟨t', rfl, List.contains_iff_mem.mp hc, h⟩
    · cases h
  · cases h

theorem sendTo_none (s : Srv) (p : Packet) : sendTo s none p = [] := rfl

/-- arguments that start (after the catch-all prefix) with session id `sid` -/
def carries (sid : Sid) (a : List J) : Prop := ∃ pre rest, a = pre ++ J.str sid :: rest

theorem carries_of_suffix {sid : Sid} {rest a : List J} (h : ∃ pre, a = pre ++ (J.str sid :: rest)) :
    carries sid a := by
  obtain ⟨pre, rfl⟩ := h; exact ⟨pre, rest, rfl⟩

theorem endSession_outs (cfg : Cfg) (s : Srv) (sid : Sid) (ns : Ns) (reason : Str) (b : Bool)
    {t : Eio} (ht : eioOf s.rooms ns sid = some t) :
    ∀ o ∈ (endSession cfg s sid ns reason b).2.1, o.confined t (carries sid) :=
  endSession_all (P := fun o => o.confined t (carries sid)) (fun _ _ h _ => Option.some.inj (h.symm.trans ht)) (fun _ => trivial)
    (fun _ _ _ hr h => carries_of_suffix (resolve_target hr h)) b

theorem sidOf_eioOf {r : Rooms.St} (h : Inv r) {ns : Ns} {t : Eio} {sid : Sid}
    (hs : sidOf r ns t = some sid) : eioOf r ns sid = some t :=
  h.eioOf_iff.mpr (sidOf_some_mem hs)

theorem handleDisconnect_outs {s : Srv} (h : WF s) (cfg : Cfg) (t : Eio) (ns : Ns) (reason : Str) :
    ∀ o ∈ (handleDisconnect cfg s t ns reason).2.1,
      o.confined t (fun a => ∃ sid, sidOf s.rooms ns t = some sid ∧ carries sid a) := by
  unfold handleDisconnect
  split
  · intro o ho; cases ho
  · rename_i sid hs
    split
    · intro o ho; cases ho
    · intro o ho
      exact (endSession_outs cfg s sid ns reason false (sidOf_eioOf h.rooms hs) o ho).mono
        (fun a ha => ⟨sid, hs, ha⟩)

theorem handleConnect_outs (cfg : Cfg) (s : Srv) (t : Eio) (nsp : Option Str) (data : Option J) :
    ∀ o ∈ (handleConnect cfg s t nsp data).2, o.confined t (carries (sidName s.nextSid)) :=
  handleConnect_all (fun _ _ => rfl) (fun _ => trivial)
    fun _ _ _ hr h => carries_of_suffix (resolve_target hr h)

theorem runHandler_outs (cfg : Cfg) (s : Srv) (b : Bg) :
    ∀ o ∈ (runHandler cfg s b).2, o.confined b.eio (carries b.sid) :=
  runHandler_all (P := fun o => o.confined b.eio (carries b.sid)) (fun _ _ => rfl)
    (fun _ => trivial) (fun _ _ _ hr h => carries_of_suffix (resolve_target hr h)) s

theorem handleEvent_outs (cfg : Cfg) (s : Srv) (t : Eio) (nsp : Option Str) (id : Option Nat)
    (data : Option J) :
    ∀ o ∈ (handleEvent cfg s t nsp id data).2,
      o.confined t (fun a => ∃ sid, sidOf s.rooms (nsp.getD ['/']) t = some sid ∧ carries sid a) := by
  have nil : ∀ {ok}, ∀ o ∈ ([] : List Out), o.confined t ok := fun _ ho => nomatch ho
  unfold handleEvent
  dsimp only
  cases splitEvent data with
  | error e => exact List.forall_mem_cons.mpr ⟨trivial, nil⟩
  | ok fr =>
    dsimp only
    cases hs : sidOf s.rooms (nsp.getD ['/']) t with
    | none => exact nil
    | some sid =>
      dsimp only
      cases isConnected s sid (nsp.getD ['/'])
      · exact nil
      cases cfg.asyncHandlers
      · exact fun o ho => (runHandler_outs cfg s _ o ho).mono (fun a ha => ⟨sid, rfl, ha⟩)
      · exact nil

theorem handleAck_outs (s : Srv) (t : Eio) (nsp : Option Str) (id : Option Nat) (data : Option J) :
    ∀ o ∈ (handleAck s t nsp id data).2,
      (∃ e, o = .raised e) ∨
      ∃ sid i n args, sidOf s.rooms (nsp.getD ['/']) t = some sid ∧ id = some i ∧
        (sid, i, CbTok.user n) ∈ s.cbs ∧ starArgs data = .ok args ∧ o = .callback n args ∧
        handleAck s t nsp id data = (popCb s sid i, [.callback n args]) := by
  rcases handleAck_cases s t nsp id data with h | ⟨sid, i, tok, hs, hi, hm, h⟩
  · rw [h]; exact fun _ ho => nomatch ho
  · rw [h]
    cases ha : starArgs data with
    | error e => exact fun o ho => Or.inl ⟨e, List.mem_singleton.mp ho⟩
    | ok args =>
      cases tok with
      | user n => exact fun o ho => Or.inr ⟨sid, i, n, args, hs, hi, hm, rfl, List.mem_singleton.mp ho, rfl⟩
      | call n => exact fun _ ho => nomatch ho

end Sio.Server
