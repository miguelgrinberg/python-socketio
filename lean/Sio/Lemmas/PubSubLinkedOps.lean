/-
  `Linked` over one operation followed by its drain: what the history must respect (`HistOpOk`,
  `HistOk`), the reference server's side, the step lemma for an operation that touches the tables
  under some keys only (`linked_keyed`), its instance for API calls that touch none, and the emit of
  the write-only manager.
-/
import Sio.Lemmas.PubSubLinkedInv
import Sio.Lemmas.PubSubSyncOps
namespace Sio.PubSub
open Sio.Rooms

/-- What the history must respect at operation `op`, judged on the reference server `s` at that
    moment: a `connect` brings a session id that is not in use and has never been asked anything
    (session ids are fresh); an emit with a callback addresses a personal room in which nobody but
    its owner is ("callbacks can only be used when addressing an individual client"). -/
def HistOpOk (s : Single) : Op → Prop
  | .connect _ _ _ sid => (∀ e ∈ s.srv.rooms, e.sid ≠ sid) ∧ (∀ a ∈ s.asked, a.1 ≠ sid)
  | .emit _ _ _ ns to _ cb =>
    cb.isSome → ∀ r, to = .one r → ∀ e ∈ s.srv.rooms, e.ns = ns → e.room = some r → e.sid = r
  | _ => True

/-- the condition `HistOpOk` along a history, judged on the run of the reference server -/
def HistOk (s : Single) : List Op → Prop
  | [] => True
  | op :: ops => HistOpOk s op ∧ HistOk (s.step op).1 ops

instance (s : Single) (op : Op) : Decidable (HistOpOk s op) := by
  cases op with
  | connect hid ns eio sid => unfold HistOpOk; infer_instance
  | emit via ev d ns to skip cb =>
    cases cb with
    | none => exact isTrue (fun h => (nomatch h))
    | some t =>
      cases to with
      | one r =>
        exact decidable_of_iff (∀ e ∈ s.srv.rooms, e.ns = ns → e.room = some r → e.sid = r)
          ⟨fun h _ r' hr => by cases hr; exact h, fun h => h rfl r rfl⟩
      | _ => exact isTrue (fun _ r h => (nomatch h))
  | _ => exact isTrue trivial

instance : (s : Single) → (ops : List Op) → Decidable (HistOk s ops)
  | _, [] => isTrue trivial
  | s, op :: ops =>
    have := instDecidableHistOk (s.step op).1 ops
    (inferInstance : Decidable (HistOpOk s op ∧ HistOk (s.step op).1 ops))

theorem mem_singleRooms {rooms : Rooms.St} {op : Op} {e : Entry} (he : e ∈ singleRooms op rooms) :
    (∃ e' ∈ rooms, e'.ns = e.ns ∧ e'.sid = e.sid) ∨
    (∃ hid ns eio sid, op = .connect hid ns eio sid ∧ e.ns = ns ∧ e.sid = sid) := by
  have old : ∀ {P : Prop}, e ∈ rooms → (∃ e' ∈ rooms, e'.ns = e.ns ∧ e'.sid = e.sid) ∨ P :=
    fun h => Or.inl ⟨e, h, rfl, rfl⟩
  cases op with
  | connect hid ns eio sid =>
    rcases (mem_apply_connect rooms ns eio sid e).mp he with h | h
    · exact old h
    · unfold connectNews at h
      split at h
      · simp only [List.mem_cons, List.not_mem_nil, or_false] at h
        rcases h with rfl | rfl <;> exact Or.inr ⟨hid, ns, eio, sid, rfl, rfl, rfl⟩
      · cases h
  | enter via ns sid room =>
    simp only [singleRooms, enterLocal] at he
    split at he
    · rename_i eio hq
      rcases mem_add.mp he with h | rfl
      · exact old h
      · exact Or.inl ⟨_, eioOf_some_mem hq, rfl, rfl⟩
    · exact old he
  | leave | close | disconnect => exact old (List.mem_filter.mp he).1
  | emit | ack | deliver | drain => exact old he

theorem single_oneNs {s : Single} {op : Op} (hh : HistOpOk s op)
    (hone : ∀ e₁ ∈ s.srv.rooms, ∀ e₂ ∈ s.srv.rooms, e₁.sid = e₂.sid → e₁.ns = e₂.ns) :
    ∀ e₁ ∈ singleRooms op s.srv.rooms, ∀ e₂ ∈ singleRooms op s.srv.rooms, e₁.sid = e₂.sid → e₁.ns = e₂.ns := by
  intro e₁ h1 e₂ h2 hsid
  rcases mem_singleRooms h1 with ⟨a, ha, an, as⟩ | ⟨hid, ns, eio, sid, rfl, n1, s1⟩ <;>
    rcases mem_singleRooms h2 with ⟨b, hb, bn, bs⟩ | ⟨hid', ns', eio', sid', hop, n2, s2⟩
  · rw [← an, ← bn]
    exact hone a ha b hb (by rw [as, bs, hsid])
  · subst hop
    exact absurd (by rw [as, hsid, s2]) (hh.1 a ha)
  · exact absurd (by rw [bs, ← hsid, s1]) (hh.1 b hb)
  · cases hop
    rw [n1, n2]

theorem single_step_asked (s : Single) (op : Op) :
    (s.step op).1.asked = s.asked ++ askedIn (s.step op).2 := rfl

section frame
variable {home : Sid → HostId} {ehome : Eio → HostId} {c c' : Cluster} {s : Single} {G : Host → Host}
  {outs : List Out}

/-- An operation (followed by its drain) that touches callback tables, counters and asks under
    the keys `K` only: the invariant is kept if it is kept for those.  Everything else is the same
    for every operation: the cursors, the reference server's rooms (a session that appears is new:
    it has never been asked anything), the number of asks (it follows what the clients see). -/
theorem linked_keyed (hs : Sim home ehome c s) (hl : Linked home c s) (op : Op) (hh : HistOpOk s op)
    (hm : Moves c G outs c') (hGid : ∀ h ∈ c.hosts, (G h).id = h.id)
    (hseen : ∀ x, seenBy x outs = seenBy x (s.step op).2) (K : Str → Prop)
    (hG : ∀ h ∈ c.hosts, ∀ y, ¬ K y → (G h).cbs y = h.cbs y ∧ (G h).ctr y = h.ctr y)
    (hS : ∀ y, ¬ K y →
      (s.step op).1.srv.cbs y = s.srv.cbs y ∧ (s.step op).1.srv.ctr y = s.srv.ctr y)
    (hA : ∀ y, ¬ K y → askedOf (askedIn (s.step op).2) y = [])
    (hB : ∀ h ∈ c.hosts, (G h).Bounded) (hSB : (s.step op).1.srv.Bounded)
    (hk0 : ∀ k, K k → (∃ e ∈ (s.step op).1.srv.rooms, e.sid = k) →
      ∃ C N, Rep c'.hosts k C N ∧
        KL C (N (home k)) ((s.step op).1.srv.cbs k) ((s.step op).1.srv.ctr k) k (home k)
          ((askedOf c'.asked k).zip (askedOf (s.step op).1.asked k))) :
    Linked home c' (s.step op).1 := by
  have hrooms := single_step_rooms (s := s) hs.sinv op
  refine ⟨hm.drained, ?_, ?_, ?_, hSB, ?_⟩
  · rw [hrooms]; exact single_oneNs hh hl.oneNs
  · intro x
    rw [hm.asked, single_step_asked, askedOf_append, askedOf_append, List.length_append,
      List.length_append, hl.len x, askedOf_askedIn_length_eq hseen]
  · rw [hm.hosts]
    exact List.forall_mem_map.mpr hB
  · intro x hx
    by_cases hne : K x
    · exact hk0 x hne hx
    · have hsa : askedOf (s.step op).1.asked x = askedOf s.asked x := by
        rw [single_step_asked, askedOf_append, hA x hne, List.append_nil]
      rw [hrooms] at hx
      obtain ⟨e, he, hex⟩ := hx
      rcases mem_singleRooms he with ⟨a, ha, _, as⟩ | ⟨hid, ns, eio, sid, rfl, _, s1⟩
      · obtain ⟨C, N, hrep, hkl⟩ := hl.link x ⟨a, ha, as.trans hex⟩
        refine ⟨C, N, ?_, ?_⟩
        · rw [hm.hosts]
          exact hrep.frame _ hGid (fun h hh => hG h hh x hne)
        · rw [hm.askedOf_eq hseen (hA x hne), hsa, (hS x hne).1, (hS x hne).2]
          exact hkl
      · have hnd' : (c'.hosts.map Host.id).Nodup := by
          rw [hm.hosts, map_id_eq (G := fun h => { G h with cursor := c'.chan.length }) hGid]
          exact hs.ids
        refine ⟨_, _, rep_canonical hnd' x, ?_⟩
        rw [hsa, ← hex, s1, askedOf_eq_nil hh.2, List.zip_nil_right]
        exact KL.nil

/-- What every operation followed by its drain delivers (`linked_step`): the states are linked again,
    the cluster has run the callbacks the reference server has run, and no step runs both a callback
    and a disconnect handler — which is what lets `appEvents` be put together from `cbEvents` and
    `discEvents` (`appEvents_eq`). -/
def StepGoal (home : Sid → HostId) (c : Cluster) (s : Single) (op : Op) : Prop :=
  Linked home (stepSync c op).1 (s.step op).1 ∧
  cbEvents (stepSync c op).2 = cbEvents (s.step op).2 ∧
  (cbEvents (s.step op).2 = [] ∨ discEvents (s.step op).2 = [])

theorem linked_frame (hs : Sim home ehome c s) (hl : Linked home c s) (op : Op)
    (hh : HistOpOk s op) (hm : Moves c G outs c')
    (hG : ∀ h ∈ c.hosts, (G h).id = h.id ∧ (G h).cbs = h.cbs ∧ (G h).ctr = h.ctr)
    (hcb : cbEvents outs = []) (hseen : ∀ x, seenBy x outs = seenBy x (s.step op).2)
    (hS : (s.step op).1.srv.cbs = s.srv.cbs ∧ (s.step op).1.srv.ctr = s.srv.ctr)
    (hask : askedIn (s.step op).2 = []) (hscb : cbEvents (s.step op).2 = []) :
    Linked home c' (s.step op).1 ∧ cbEvents outs = cbEvents (s.step op).2 ∧
    (cbEvents (s.step op).2 = [] ∨ discEvents (s.step op).2 = []) :=
  ⟨linked_keyed hs hl op hh hm (fun h hh => (hG h hh).1) hseen (fun _ => False)
    (fun h hh y _ => ⟨by rw [(hG h hh).2.1], by rw [(hG h hh).2.2]⟩)
    (fun y _ => ⟨by rw [hS.1], by rw [hS.2]⟩) (fun y _ => by rw [hask]; rfl)
    (fun h hh => (hl.bound h hh).congr (hG h hh).2.1 (hG h hh).2.2) (hl.sbound.congr hS.1 hS.2)
    (fun _ hk => hk.elim),
    hcb.trans hscb.symm, Or.inl hscb⟩

theorem linked_on_frame (hs : Sim home ehome c s) (hl : Linked home c s) (op : Op)
    (hop : OpOk home ehome (c.views.map Prod.fst) op) (hh : HistOpOk s op) (via : HostId)
    (hvia : via ∈ c.views.map Prod.fst) (f : Host → Res) (hst : step c op = c.on via f)
    (hf : ∀ hv ∈ c.hosts, hv.id = via →
      Keeps (f hv) hv ∧ ∀ m ∈ (f hv).pubs, m.plain)
    (hS : (s.step op).1.srv.cbs = s.srv.cbs ∧ (s.step op).1.srv.ctr = s.srv.ctr)
    (hask : askedIn (s.step op).2 = []) (hscb : cbEvents (s.step op).2 = []) : StepGoal home c s op := by
  obtain ⟨hv, hin, rfl⟩ := exists_host_of_id hvia
  have hseen := (sim_step hs op hop).2.1
  obtain ⟨G, hm, hG, hcb⟩ := on_keeps hs.ids hl.drained hv hin f (hf hv hin rfl).1 (hf hv hin rfl).2
  unfold StepGoal
  rw [hst] at hseen
  rw [stepSync_on hst]
  exact linked_frame hs hl op hh hm hG hcb hseen hS hask hscb

theorem single_emit_plain (s : Single) (via : Option HostId) (ev : Str) (d : Data) (ns : Ns) (to : Target)
    (skip : Skip) :
    ((s.step (.emit via ev d ns to skip none)).1.srv.cbs = s.srv.cbs ∧
      (s.step (.emit via ev d ns to skip none)).1.srv.ctr = s.srv.ctr) ∧
    askedIn (s.step (.emit via ev d ns to skip none)).2 = [] ∧
    cbEvents (s.step (.emit via ev d ns to skip none)).2 = [] := by
  have := emitLocal_none_host s.srv ns to skip.toList (.str ev) d.pack
  exact ⟨⟨congrArg Host.cbs this.1, congrArg Host.ctr this.1⟩, this.2.2, this.2.1⟩

theorem linked_emit_wo (hs : Sim home ehome c s) (hl : Linked home c s) (ev : Str)
    (d : Data) (ns : Ns) (to : Target) (skip : Skip) (cb : Option Nat)
    (hop : OpOk home ehome (c.views.map Prod.fst) (.emit none ev d ns to skip cb)) :
    StepGoal home c s (.emit none ev d ns to skip cb) := by
  cases cb with
  | some tok => exact absurd (hop.2.2 rfl).1 (by simp)
  | none =>
  have hok := hop.2.1
  have hseen := (sim_step hs _ hop).2.1
  have hw := apiEmit_wo c.wo hs.woRooms ev d ns to skip hok
  have hr : step c (.emit none ev d ns to skip none) =
      ({ c with chan := c.chan ++ [Msg.emit c.wo.id ev d ns to skip none] }, []) :=
    congrArg (fun r : Res => (({ c with wo := r.h, chan := c.chan ++ r.pubs } : Cluster), r.outs)) hw
  have hp := fun h => catchUp_plain h [Msg.emit c.wo.id ev d ns to skip none]
    (fun m hm => List.mem_singleton.mp hm ▸ ⟨rfl, hok⟩)
  obtain ⟨hS, hask, hscb⟩ := single_emit_plain s none ev d ns to skip
  unfold StepGoal stepSync
  rw [hr] at hseen ⊢
  obtain ⟨hm, ho⟩ := drain_moves { c with chan := c.chan ++ [Msg.emit c.wo.id ev d ns to skip none] }
    c.chan _ rfl hl.drained (fun h _ => (hp h).2)
  refine linked_frame hs hl _ (fun h => (nomatch h)) ⟨hm.hosts, hm.asked⟩
    (fun h _ => ⟨(hp h).1.id, (hp h).1.cbs, (hp h).1.ctr⟩) ?_ hseen hS hask hscb
  rw [ho]
  exact cbEvents_flatMap_nil _ _ (fun h _ => (hp h).1.quiet)

end frame

end Sio.PubSub
