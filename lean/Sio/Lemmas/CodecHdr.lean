/-
  C01 — the three phases of the header scanner on the image of `encodeHdr`.
-/
import Sio.Lemmas.CodecDigits
namespace Sio

variable {cls : Char → DC}

theorem scanAtt_natStr (hcls : AsciiCls cls) (n : Nat) (rest : Str) :
    scanAtt cls (natStr n ++ '-' :: rest) =
      if (natStr n).length > attDigitLimit then .error .valueError else .ok (n, rest) := by
  have hpre : (natStr n ++ '-' :: rest).takeWhile (· != '-') = natStr n :=
    takeWhile_stop (fun _ hc => bne_iff_ne.mpr (ne_of_true_of_false (natStr_isDigit hc) (by decide))) (by simp)
  unfold scanAtt
  simp only [hpre, allDigits_natStr hcls, pyInt_natStr hcls, natStr_isEmpty]
  simp [List.drop_length_add_append]
  rfl

theorem scanAtt_count (hcls : AsciiCls cls) {n : Nat} (hn : n < 10 ^ 10) (rest : Str) :
    scanAtt cls (natStr n ++ '-' :: rest) = .ok (n, rest) := by
  rw [scanAtt_natStr hcls, if_neg (Nat.not_lt.mpr ((natStr_length_le (by decide)).mpr hn))]

theorem scanAtt_skip_digits {ds body : Str} (hds : ∀ c ∈ ds, c.isDigit = true)
    (hbody : body = [] ∨ ∃ c r, body = c :: r ∧ (cls c).isDigit = false ∧ c ≠ '-') :
    scanAtt cls (ds ++ body) = .ok (0, ds ++ body) := by
  have hds' : ∀ c ∈ ds, (c != '-') = true :=
    fun c hc => bne_iff_ne.mpr (ne_of_true_of_false (hds c hc) (by decide))
  unfold scanAtt
  rcases hbody with rfl | ⟨c, r, rfl, hc, hne⟩
  · simp only [List.append_nil, takeWhile_all hds']
    simp; rfl
  · rw [List.takeWhile_append_of_pos hds', List.takeWhile_cons_of_pos (p := (· != '-')) (bne_iff_ne.mpr hne)]
    dsimp only
    rw [allDigits_false_of_mem (c := c) (by simp) hc]
    simp; rfl

theorem scanAtt_skip_nondigit {c : Char} {r : Str} (hc : (cls c).isDigit = false) :
    scanAtt cls (c :: r) = .ok (0, c :: r) := by
  by_cases h : c = '-'
  · subst h; simp [scanAtt]; rfl
  · exact scanAtt_skip_digits (ds := []) (fun _ h => nomatch h) (.inr ⟨c, r, rfl, hc, h⟩)

theorem scanNs_ns {tl rest : Str} (hcomma : ',' ∉ ('/' :: tl)) :
    scanNs (('/' :: tl) ++ ',' :: rest) = (some (('/' :: tl).takeWhile (· != '?')), rest) := by
  have hraw : ('/' :: (tl ++ ',' :: rest)).takeWhile (· != ',') = '/' :: tl :=
    takeWhile_stop (l₁ := '/' :: tl) (fun c hc => bne_iff_ne.mpr (by rintro rfl; exact hcomma hc)) (by simp)
  simp only [scanNs, List.cons_append, hraw]
  simp [List.drop_length_add_append]

theorem scanNs_nil : scanNs [] = (none, []) := rfl

theorem scanNs_skip {ep : Str} (h : ∀ r, ep ≠ '/' :: r) : scanNs ep = (none, ep) := by
  unfold scanNs
  split
  · exact absurd rfl (h _)
  · rfl

theorem scanId_nil : scanId cls [] = .ok (none, []) := rfl

theorem scanId_skip {c : Char} {r : Str} (hc : (cls c).isDigit = false) :
    scanId cls (c :: r) = .ok (none, c :: r) := by
  simp [scanId, hc]; rfl

theorem scanId_id (hcls : AsciiCls cls) {i : Nat} (hi : i < 10 ^ 100) {body : Str}
    (hbody : body = [] ∨ ∃ c r, body = c :: r ∧ (cls c).isDigit = false) :
    scanId cls (natStr i ++ body) = .ok (some i, body) := by
  have hdig : ∀ c ∈ natStr i, (cls c).isDigit = true :=
    fun c hc => cls_isDigit_of_isDigit hcls (natStr_isDigit hc)
  have hrun : (natStr i ++ body).takeWhile (fun c => (cls c).isDigit) = natStr i := by
    rcases hbody with rfl | ⟨c, r, rfl, hc⟩
    · simpa using takeWhile_all hdig
    · exact takeWhile_stop hdig hc
  have hlen : min (natStr i).length 100 = (natStr i).length :=
    Nat.min_eq_left ((natStr_length_le (by decide)).mpr hi)
  obtain ⟨d, ds, hd, hdd⟩ := natStr_cons i
  have hd0 : (cls d).isDigit = true := cls_isDigit_of_isDigit hcls hdd
  have hep : natStr i ++ body = d :: (ds ++ body) := by rw [hd]; rfl
  rw [hep]
  simp only [scanId, hd0, if_true]
  rw [← hep, hrun, hlen, List.take_left, List.drop_left, pyInt_natStr hcls]
  rcases hbody with rfl | ⟨c, r, rfl, hc⟩
  · rfl
  · simp [hc]; rfl

def attPart : Option Nat → Str
  | some n => natStr n ++ ['-']
  | none => []

theorem encodeHdr_eq (t : Nat) (nsp : Option Str) (id natt : Option Nat) (body : Str) :
    encodeHdr t nsp id natt ++ body
      = natStr t ++ (attPart natt ++ (nspPart nsp ++ (idPart id ++ body))) := by
  cases natt <;> simp [encodeHdr, attPart]

theorem wfNs_some {ns : Str} (h : WFNs (some ns) = true) : ∃ tl, ns = '/' :: tl ∧ ',' ∉ ns := by
  simp only [WFNs, Bool.and_eq_true, Bool.not_eq_eq_eq_not, Bool.not_true] at h
  obtain ⟨h1, h2⟩ := h
  cases ns with
  | nil => simp at h1
  | cons c tl =>
    simp at h1; subst h1
    refine ⟨tl, rfl, ?_⟩
    intro hm
    have : ('/' :: tl).contains ',' = true := List.contains_iff_mem.mpr hm
    rw [h2] at this; cases this

theorem nspPart_cases {nsp : Option Str} (h : WFNs nsp = true) :
    (isDefaultNs nsp = true ∧ nspPart nsp = [] ∧ normNs nsp = none) ∨
    (∃ tl, isDefaultNs nsp = false ∧ nspPart nsp = ('/' :: tl) ++ [','] ∧ ',' ∉ ('/' :: tl) ∧
      normNs nsp = some (('/' :: tl).takeWhile (· != '?'))) := by
  cases nsp with
  | none => left; simp [isDefaultNs, nspPart, normNs]
  | some ns =>
    by_cases hd : ns = ['/']
    · left; simp [isDefaultNs, nspPart, normNs, hd]
    · right
      obtain ⟨tl, rfl, hc⟩ := wfNs_some h
      exact ⟨tl, by simp [isDefaultNs, hd], by simp [nspPart, hd], hc, by simp [normNs, hd]⟩

theorem bodyOK_cons {nsp : Option Str} {id natt : Option Nat} {c : Char} {r : Str} :
    BodyOK cls nsp id natt (c :: r) = true ↔
      (cls c).isDigit = false ∧ (isDefaultNs nsp = true → id = none → c ≠ '/') ∧
      (natt = none → isDefaultNs nsp = true → id ≠ none → c ≠ '-') := by
  simp only [BodyOK]
  cases id <;> cases natt <;> cases isDefaultNs nsp <;> simp

theorem wfHdr_unpack {t : Nat} {nsp : Option Str} {id natt : Option Nat}
    (h : WFHdr t nsp id natt = true) :
    t ≤ 6 ∧ WFNs nsp = true ∧ (∀ i, id = some i → i < 10 ^ 100) ∧ ∀ n, natt = some n → n < 10 ^ 10 := by
  simp only [WFHdr, Bool.and_eq_true, decide_eq_true_eq] at h
  obtain ⟨⟨⟨ht, hns⟩, hid⟩, hatt⟩ := h
  exact ⟨ht, hns, fun i hi => by simpa [hi] using hid, fun n hn => by simpa [hn] using hatt⟩

/-- an id is digits, so only a body directly after the namespace position can start with `/` -/
theorem idPart_ne_slash {id : Option Nat} {body : Str} (hb : id = none → ∀ r, body ≠ '/' :: r) :
    ∀ r, idPart id ++ body ≠ '/' :: r := by
  cases id with
  | none => exact hb rfl
  | some i =>
    obtain ⟨d, ds, hd, hdd⟩ := natStr_cons i
    intro r h
    rw [idPart, hd] at h
    injection h with h1
    exact ne_of_true_of_false hdd (by decide) h1

theorem phase_att (hcls : AsciiCls cls) {t : Nat} {nsp : Option Str} {id natt : Option Nat}
    {body : Str} (hwf : WFHdr t nsp id natt = true) (hb : BodyOK cls nsp id natt body = true) :
    scanAtt cls (attPart natt ++ (nspPart nsp ++ (idPart id ++ body)))
      = .ok (natt.getD 0, nspPart nsp ++ (idPart id ++ body)) := by
  obtain ⟨_, hns, _, hatt⟩ := wfHdr_unpack hwf
  cases natt with
  | some n =>
    simp only [attPart, List.append_assoc, List.singleton_append, Option.getD_some]
    exact scanAtt_count hcls (hatt n rfl) _
  | none =>
    simp only [attPart, List.nil_append, Option.getD_none]
    rcases nspPart_cases hns with ⟨hd, hn, _⟩ | ⟨tl, _, hn, _, _⟩
    · rw [hn, List.nil_append]
      cases id with
      | some i =>
        refine scanAtt_skip_digits (fun c hc => natStr_isDigit hc) ?_
        cases body with
        | nil => left; rfl
        | cons c r =>
          right
          obtain ⟨h1, _, h3⟩ := bodyOK_cons.mp hb
          exact ⟨c, r, rfl, h1, h3 rfl hd (by simp)⟩
      | none =>
        simp only [idPart, List.nil_append]
        cases body with
        | nil => rfl
        | cons c r => exact scanAtt_skip_nondigit (bodyOK_cons.mp hb).1
    · rw [hn]
      exact scanAtt_skip_nondigit (cls_not_isDigit_of_ascii hcls (by decide) (by decide))

theorem phase_ns {t : Nat} {nsp : Option Str} {id natt : Option Nat}
    {body : Str} (hwf : WFHdr t nsp id natt = true) (hb : BodyOK cls nsp id natt body = true) :
    scanNs (nspPart nsp ++ (idPart id ++ body)) = (normNs nsp, idPart id ++ body) := by
  rcases nspPart_cases (wfHdr_unpack hwf).2.1 with ⟨hd, hn, hnorm⟩ | ⟨tl, _, hn, hc, hnorm⟩
  · rw [hn, hnorm, List.nil_append]
    exact scanNs_skip (idPart_ne_slash fun hi r h => by
      subst h; exact (bodyOK_cons.mp hb).2.1 hd hi rfl)
  · rw [hn, hnorm, List.append_assoc, List.singleton_append]
    exact scanNs_ns hc

theorem phase_id (hcls : AsciiCls cls) {t : Nat} {nsp : Option Str} {id natt : Option Nat}
    {body : Str} (hwf : WFHdr t nsp id natt = true) (hb : BodyOK cls nsp id natt body = true) :
    scanId cls (idPart id ++ body) = .ok (id, body) := by
  cases id with
  | some i =>
    refine scanId_id hcls ((wfHdr_unpack hwf).2.2.1 i rfl) ?_
    cases body with
    | nil => left; rfl
    | cons c r => right; exact ⟨c, r, rfl, (bodyOK_cons.mp hb).1⟩
  | none =>
    simp only [idPart, List.nil_append]
    cases body with
    | nil => rfl
    | cons c r => exact scanId_skip (bodyOK_cons.mp hb).1

theorem hdr_roundtrip_lem (hcls : AsciiCls cls) {t : Nat} {nsp : Option Str} {id natt : Option Nat}
    {body : Str} (hwf : WFHdr t nsp id natt = true) (hb : BodyOK cls nsp id natt body = true) :
    decodeHdr cls (encodeHdr t nsp id natt ++ body)
      = .ok ⟨t, normNs nsp, id, body, natt.getD 0⟩ := by
  have h1 : natStr t = [Nat.digitChar t] := natStr_of_lt_ten (by have := (wfHdr_unpack hwf).1; omega)
  rw [encodeHdr_eq, h1]
  simp only [decodeHdr, List.singleton_append, List.take_succ_cons, List.take_zero,
    List.drop_succ_cons, List.drop_zero]
  rw [← h1, pyInt_natStr hcls, phase_att hcls hwf hb]
  simp only [bind, Except.bind, phase_ns hwf hb, phase_id hcls hwf hb]
  rfl

end Sio
