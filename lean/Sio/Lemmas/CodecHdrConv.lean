/-
  C01 — the converse of the header round trip: `BodyOK` is not only sufficient but necessary,
  i.e. it is the weakest condition on the text that follows a well-formed header.
-/
import Sio.Lemmas.CodecHdr
import Sio.Lemmas.CodecGuards
namespace Sio

variable {cls : Char → DC}

theorem scanNs_none {ep : Str} (h : (scanNs ep).1 = none) :
    (scanNs ep).2 = ep ∧ ∀ r, ep ≠ '/' :: r := by
  unfold scanNs at h ⊢
  split
  · cases h
  · rename_i hne
    exact ⟨rfl, hne⟩

theorem scanNs_length (ep : Str) : (scanNs ep).2.length ≤ ep.length := by
  unfold scanNs
  split
  · dsimp only
    split
    · rw [List.length_drop]; omega
    · simp
  · exact Nat.le_refl _

theorem bodyOK_necessary (hcls : AsciiCls cls) {t : Nat} {nsp : Option Str} {id natt : Option Nat}
    {body : Str} (hwf : WFHdr t nsp id natt = true)
    (hdec : decodeHdr cls (encodeHdr t nsp id natt ++ body)
      = .ok ⟨t, normNs nsp, id, body, natt.getD 0⟩) :
    BodyOK cls nsp id natt body = true := by
  cases body with
  | nil => rfl
  | cons c r =>
    obtain ⟨ep, _, hatt, hns, hid⟩ := decodeHdr_ok hdec
    dsimp only at hatt hns hid
    obtain ⟨hrest, hcase⟩ := scanId_ok hid
    obtain ⟨ht, hnsw, _⟩ := wfHdr_unpack hwf
    refine bodyOK_cons.mpr ⟨?_, fun hd hi hc => ?_, fun hn hd hi hc => ?_⟩
    · -- what is left after the id does not start with a digit
      obtain h | ⟨_, _, h, hc⟩ := hrest
      · cases h
      · cases h; exact hc
    · -- a `/` directly after the type digit / attachment count would be read as a namespace
      subst hi hc
      rcases nspPart_cases hnsw with ⟨_, _, hnorm⟩ | ⟨_, hd', _⟩
      · obtain ⟨he, hne⟩ := scanNs_none (hns.symm.trans hnorm)
        obtain ⟨_, hr⟩ | ⟨_, _, _, _, hi, _⟩ := hcase
        · exact hne r (hr.trans he).symm
        · cases hi
      · rw [hd] at hd'; cases hd'
    · -- a `-` directly after an id that follows the type digit makes the id an attachment count:
      -- the scanner is then past the `-`, and cannot hand back a rest that still contains it
      subst hn hc
      rcases nspPart_cases hnsw with ⟨_, hnp, _⟩ | ⟨_, hd', _⟩
      · cases id with
        | none => exact hi rfl
        | some i =>
          have hs : (encodeHdr t nsp (some i) none ++ '-' :: r).drop 1 = natStr i ++ '-' :: r := by
            rw [encodeHdr_eq, natStr_of_lt_ten (by omega), hnp]; rfl
          rw [hs, scanAtt_natStr hcls] at hatt
          split at hatt
          · cases hatt
          · cases hatt
            have l1 := scanNs_length r
            have l2 : r.length + 1 ≤ (scanNs r).2.length := by
              obtain ⟨_, hr⟩ | ⟨k, _, _, _, _, hr⟩ := hcase
              · rw [← hr]; exact Nat.le_refl _
              · rw [← List.length_cons (a := '-'), hr, List.length_drop]; omega
            omega
      · rw [hd] at hd'; cases hd'

end Sio
