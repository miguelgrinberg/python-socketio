/-
  K7 — CONNECT packets / auth calls in a trace; the connect window while the transport stays up.
-/
import Sio.Lemmas.Client
namespace Sio.Client

/-- what `connect()` does towards the server: invoking the auth callable, handing over a CONNECT -/
inductive ConnOut where
  | auth
  | pkt (nsp : Option Ns) (data : Option J)

def connectOf : Out → Option ConnOut
  | .send p => if p.type = CONNECT then some (.pkt p.nsp p.data) else none
  | .authCall => some .auth
  | _ => none

def connects (os : List Out) : List ConnOut := os.filterMap connectOf

@[simp] theorem connects_nil : connects [] = [] := rfl
@[simp] theorem connects_append (a b : List Out) : connects (a ++ b) = connects a ++ connects b := by
  simp [connects, List.filterMap_append]
theorem connects_cons (o : Out) (os : List Out) :
    connects (o :: os) = (connectOf o).toList ++ connects os := by
  simp only [connects, List.filterMap_cons]
  cases connectOf o <;> simp

theorem connects_of_quiet {o : List Out} (h : o.all Out.quiet = true) : connects o = [] :=
  List.filterMap_eq_nil_iff.mpr fun x hx => by
    have hq := List.all_eq_true.mp h x hx
    cases x with
    | send p => exact if_neg (bne_iff_ne.mp hq)
    | authCall => cases hq
    | _ => rfl

theorem connects_handleAck (c : Cli) (ns : Option Ns) (id : Option Nat) (data : Option J) :
    connects (handleAck c ns id data).2 = [] := by
  unfold handleAck
  split
  · rfl
  · split
    · rfl
    · unfold ackOuts
      split
      · split <;> rfl
      · rfl

theorem Did.connects {msg : Prop} {c c' : Cli} {o : List Out} (h : Did msg c c' o) : connects o = [] := by
  cases h with
  | quiet _ _ _ _ _ _ h => exact connects_of_quiet h
  | ack b ns id data _ _ h => rw [h]; exact connects_handleAck ..
  | ended _ h _ => exact connects_of_quiet h.out

theorem connects_deliverAll (cfg : Cfg) (es : List Ev) : ∀ c, connects (deliverAll cfg c es).2 = []
    := by
  induction es with
  | nil => intro c; rfl
  | cons e es ih => intro c; rw [deliverAll, connects_append, (deliver_did cfg c e).connects, ih]; rfl

def Ev.isMsg : Ev → Bool
  | .msg _ _ => true
  | _ => false

/-- no reaction is a loss of the transport or an engine.io CLOSE -/
def quiet (rs : List (List Ev)) : Bool := rs.all (fun l => l.all Ev.isMsg)

/-- before `connect()` has set `connected`, no message ends the transport (a DISCONNECT is ignored) -/
theorem deliver_window (cfg : Cfg) (c : Cli) (e : Ev) (hm : e.isMsg = true) (h1 : c.connected = false)
    (h2 : c.eio = .connected) :
    (deliver cfg c e).1.connected = false ∧ (deliver cfg c e).1.eio = .connected := by
  cases e with
  | lost | close => cases hm
  | msg raw d =>
    cases deliver_did cfg c (.msg raw d) with
    | quiet _ _ he _ hc _ _ => exact ⟨hc h1, he.trans h2⟩
    | ack b ns id data _ hs _ => rw [hs, handleAck_state]; exact ⟨h1, h2⟩
    | ended _ _ hc => cases h1.symm.trans (hc ⟨raw, d, rfl⟩)

theorem deliverAll_window (cfg : Cfg) (es : List Ev) : ∀ (c : Cli), es.all Ev.isMsg = true →
    c.connected = false → c.eio = .connected →
    (deliverAll cfg c es).1.connected = false ∧ (deliverAll cfg c es).1.eio = .connected := by
  induction es with
  | nil => intro c _ h1 h2; exact ⟨h1, h2⟩
  | cons e es ih =>
    intro c hq h1 h2
    simp only [List.all_cons, Bool.and_eq_true] at hq
    have := deliver_window cfg c e hq.1 h1 h2
    exact ih _ hq.2 this.1 this.2

/-- **connect_sends**, the loop: while the transport stays up, `_handle_eio_connect` hands over one
    CONNECT per requested namespace, in order, each carrying the auth payload — and nothing else
    in the trace is a CONNECT packet. -/
theorem connects_connectLoop (cfg : Cfg) (auth : J) (nss : List Ns) : ∀ (c : Cli)
    (rs : List (List Ev)),
    quiet rs = true → c.connected = false → c.eio = .connected →
    connects (connectLoop cfg auth c nss rs).2 = nss.map (fun n => ConnOut.pkt (some n) (some auth))
    ∧ (connectLoop cfg auth c nss rs).1.connected = false
    ∧ (connectLoop cfg auth c nss rs).1.eio = .connected := by
  induction nss with
  | nil => intro c rs _ h1 h2; exact ⟨rfl, h1, h2⟩
  | cons n ns ih =>
    intro c rs hq h1 h2
    have hq' : (rs.headD []).all Ev.isMsg = true ∧ quiet rs.tail = true := by
      cases rs with
      | nil => exact ⟨rfl, rfl⟩
      | cons r rs =>
        simpa only [quiet, List.all_cons, Bool.and_eq_true, List.headD_cons, List.tail_cons] using hq
    have hw := deliverAll_window cfg (rs.headD []) c hq'.1 h1 h2
    obtain ⟨i1, i2, i3⟩ := ih _ rs.tail hq'.2 hw.1 hw.2
    simp only [connectLoop, h2, if_true]
    refine ⟨?_, i2, i3⟩
    rw [connects_cons, connects_append, connects_deliverAll, i1]
    rfl

end Sio.Client
