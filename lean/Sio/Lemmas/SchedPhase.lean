/-
  K5: the phase invariant of one (sid, namespace) under any number of concurrent terminating tasks,
  preserved by every admissible step.
-/
import Sio.Lemmas.SchedStep
namespace Sio.Sched

/-- position class of task `t` with respect to namespace `n`:
    1 = in the gate window (passed `check`, before `mark`), 2 = marked, handler not yet invoked
    (`send`/`handler`), 3 = handler invoked, before `manager.disconnect` (`cleanup`), 4 = a refusing
    CONNECT that is marked and has not yet sent the refusal (`send`, kind `refuse`), 5 = refusal sent,
    before `manager.disconnect` (`cleanup`, kind `refuse`), 0 = anything else (including: working on
    another namespace). -/
def cls (n : Ns) (t : Task) : Nat :=
  match t.todo with
  | m :: _ =>
    if m = n then
      match t.pc with
      | .mark => 1
      | .send => if t.kind = .refuse then 4 else 2
      | .handler => 2
      | .cleanup => if t.kind = .refuse then 5 else 3
      | _ => 0
    else 0
  | [] => 0

/-- number of refusals among the tasks that passed the gate of a namespace -/
def nref (l : List Kind) : Nat := l.count .refuse

def cntL (l : List Task) (n : Ns) (k : Nat) : Nat := l.countP (fun t => cls n t == k)

def cnt (st : St) (n : Ns) (k : Nat) : Nat := cntL st.tasks n k

@[simp] theorem cnt_mk (ts : List Task) (sh : Shared) (n : Ns) (k : Nat) :
    cnt { tasks := ts, sh := sh } n k = cntL ts n k := rfl

/-- the position class of a task of kind `k` at pc `p` with respect to its current namespace -/
def pos (k : Kind) : Pc → Nat
  | .mark => 1
  | .send => if k = .refuse then 4 else 2
  | .handler => 2
  | .cleanup => if k = .refuse then 5 else 3
  | _ => 0

theorem cls_eq (n : Ns) (t : Task) : cls n t = if t.todo.head? = some n then pos t.kind t.pc else 0 := by
  rcases t with ⟨k, _ | ⟨m, r⟩, p⟩ <;> simp [cls, pos]

@[simp] theorem cls_self (n : Ns) (k : Kind) (rest : List Ns) (p : Pc) :
    cls n ⟨k, n :: rest, p⟩ = pos k p := by simp [cls_eq]

theorem pos_eq_one (k : Kind) (p : Pc) : pos k p = 1 ↔ p = .mark := by
  cases p <;> simp [pos] <;> split <;> simp

/-- `cls_eq` for a task given by its fields: unlike `cls_eq` it leaves `cls n (advance t rest)` to
    `cls_advance` -/
theorem cls_mk (n : Ns) (k : Kind) (todo : List Ns) (p : Pc) :
    cls n ⟨k, todo, p⟩ = if todo.head? = some n then pos k p else 0 := cls_eq n _

theorem cls_eq_one (n : Ns) (t : Task) : cls n t = 1 ↔ t.todo.head? = some n ∧ t.pc = .mark := by
  rw [cls_eq]; split <;> simp [*, pos_eq_one]

theorem cls_of_head {n : Ns} {t : Task} (h : t.todo.head? ≠ some n) : cls n t = 0 := by
  simp [cls_eq, h]

theorem cls_other (n m : Ns) (t : Task) (rest : List Ns) (h : t.todo = m :: rest) (hne : n ≠ m) :
    cls n t = 0 :=
  cls_of_head (by simp [h, Ne.symm hne])

theorem cls_pc_other (n m : Ns) (t : Task) (p : Pc) (rest : List Ns) (h : t.todo = m :: rest)
    (hne : n ≠ m) : cls n { t with pc := p } = 0 :=
  cls_of_head (by simp [h, Ne.symm hne])

theorem cls_of_pos {t : Task} (h : pos t.kind t.pc = 0) (n : Ns) : cls n t = 0 := by
  simp [cls_eq, h]

@[simp] theorem advance_pc_ne (t : Task) (rest : List Ns) :
    (advance t rest).pc ≠ .raised ∧ (advance t rest).pc ≠ .handler ∧ (advance t rest).pc ≠ .mark := by
  unfold advance; split <;> simp

@[simp] theorem advance_kind (t : Task) (rest : List Ns) : (advance t rest).kind = t.kind := rfl

@[simp] theorem afterMark_ne (k : Kind) : afterMark k ≠ .raised ∧ afterMark k ≠ .mark := by
  cases k <;> simp [afterMark]

@[simp] theorem chNext_ne (k : Kind) :
    chNext k ≠ .raised ∧ chNext k ≠ .mark ∧ chNext k ≠ .handler ∧ chNext k ≠ .send ∧
      chNext k ≠ .cleanup := by
  cases k <;> simp [chNext]

@[simp] theorem cls_advance (n : Ns) (t : Task) (rest : List Ns) : cls n (advance t rest) = 0 := by
  apply cls_of_pos; unfold advance; split <;> rfl

theorem Step.cls_off {a : Bool} {sh sh' : Shared} {t t' : Task} (h : Step a sh t t' sh') {n : Ns}
    (hn : t.todo.head? ≠ some n) : cls n t' = 0 := by
  cases h <;> first | exact cls_advance .. | exact cls_of_head hn

theorem cnt_pos {st : St} {t : Task} (h : t ∈ st.tasks) (n : Ns) : 1 ≤ cnt st n (cls n t) :=
  List.countP_pos_iff.mpr ⟨t, h, by simp⟩

theorem cnt_eq_zero {st : St} (h : ∀ t ∈ st.tasks, pos t.kind t.pc = 0) (n : Ns) (k : Nat)
    (hk : k ≠ 0) : cnt st n k = 0 :=
  List.countP_eq_zero.mpr fun t ht => by rw [cls_of_pos (h t ht) n]; simpa using hk.symm

theorem cnt_pos_self {st : St} {k : Kind} {n : Ns} {rest : List Ns} {p : Pc}
    (h : ⟨k, n :: rest, p⟩ ∈ st.tasks) : 1 ≤ cnt st n (pos k p) :=
  cls_self n k rest p ▸ cnt_pos h n

/-- the position counts after one task went from class `c` to class `c'` -/
def move (f : Nat → Nat) (c c' k : Nat) : Nat :=
  f k + (if c' = k then 1 else 0) - (if c = k then 1 else 0)

theorem cntL_set {l : List Task} {i : Nat} {t : Task} (h : l[i]? = some t) (t' : Task) (n : Ns)
    (k : Nat) : cntL (l.set i t') n k = move (cntL l n) (cls n t) (cls n t') k := by
  obtain ⟨hi, rfl⟩ := List.getElem?_eq_some_iff.mp h
  have := List.boole_getElem_le_countP (p := fun u => cls n u == k) hi
  simp only [cntL, move, List.countP_set hi, beq_iff_eq] at this ⊢
  omega

/-- opening the window and passing the gate in one step -/
theorem move_move (f : Nat → Nat) (c' : Nat) {k : Nat} (hk : k ≠ 0) :
    move f 0 c' k = move (move f 0 1) 1 c' k := by
  simp only [move, hk.symm, if_false]; omega

theorem cnt_one (st : St) (n : Ns) : cnt st n 1 = st.tasks.countP (inWindow n) := by
  refine congrArg (List.countP · st.tasks) (funext fun t => ?_)
  rw [Bool.eq_iff_iff]; simp [inWindow, cls_eq_one, and_comm]

/-- the phases of a (sid, namespace); `m0` = the sid was connected to it at the start.
    Arguments: membership, pending count, handler calls, refusals sent, number of tasks that passed
    the gate (`nm`), number of refusing CONNECTs among them (`nr`), and the number of tasks in each
    position class 1…5 (`w a b r s`). -/
def Phase (m0 mem : Bool) (pend calls ref nm nr w a b r s : Nat) : Prop :=
  -- untouched
  (m0 = true ∧ mem = true ∧ pend = 0 ∧ calls = 0 ∧ ref = 0 ∧ nm = 0 ∧ nr = 0 ∧
    w ≤ 1 ∧ a = 0 ∧ b = 0 ∧ r = 0 ∧ s = 0) ∨
  -- marked by a terminating cause, handler not yet invoked
  (m0 = true ∧ mem = true ∧ pend = 1 ∧ calls = 0 ∧ ref = 0 ∧ nm = 1 ∧ nr = 0 ∧
    w = 0 ∧ a = 1 ∧ b = 0 ∧ r = 0 ∧ s = 0) ∨
  -- handler invoked
  (m0 = true ∧ mem = true ∧ pend = 1 ∧ calls = 1 ∧ ref = 0 ∧ nm = 1 ∧ nr = 0 ∧
    w = 0 ∧ a = 0 ∧ b = 1 ∧ r = 0 ∧ s = 0) ∨
  -- ended by a terminating cause
  (m0 = true ∧ mem = false ∧ pend = 0 ∧ calls = 1 ∧ ref = 0 ∧ nm = 1 ∧ nr = 0 ∧
    w = 0 ∧ a = 0 ∧ b = 0 ∧ r = 0 ∧ s = 0) ∨
  -- never connected
  (m0 = false ∧ mem = false ∧ pend = 0 ∧ calls = 0 ∧ ref = 0 ∧ nm = 0 ∧ nr = 0 ∧
    w = 0 ∧ a = 0 ∧ b = 0 ∧ r = 0 ∧ s = 0) ∨
  -- marked by the refusing CONNECT, refusal not yet sent
  (m0 = true ∧ mem = true ∧ pend = 1 ∧ calls = 0 ∧ ref = 0 ∧ nm = 1 ∧ nr = 1 ∧
    w = 0 ∧ a = 0 ∧ b = 0 ∧ r = 1 ∧ s = 0) ∨
  -- refusal sent
  (m0 = true ∧ mem = true ∧ pend = 1 ∧ calls = 0 ∧ ref = 1 ∧ nm = 1 ∧ nr = 1 ∧
    w = 0 ∧ a = 0 ∧ b = 0 ∧ r = 0 ∧ s = 1) ∨
  -- ended by the refusal: the disconnect handler was never invoked and never will be
  (m0 = true ∧ mem = false ∧ pend = 0 ∧ calls = 0 ∧ ref = 1 ∧ nm = 1 ∧ nr = 1 ∧
    w = 0 ∧ a = 0 ∧ b = 0 ∧ r = 0 ∧ s = 0)

/-- `Phase` row by row: case analysis on a phase is `cases`, a transition is the name of the next
    row.  The twelve positions, as in `Phase`:
    `m0 mem | pend calls ref nm nr | w a b r s` = connected at the start, member now | pending,
    handler calls, refusals sent, gate passages, refusals among them | tasks in class 1 … 5. -/
inductive Row : Bool → Bool → Nat → Nat → Nat → Nat → Nat → Nat → Nat → Nat → Nat → Nat → Prop
  | untouched {w : Nat} : w ≤ 1 → Row true true   0 0 0 0 0   w 0 0 0 0
  | marked :    Row true true    1 0 0 1 0   0 1 0 0 0
  | called :    Row true true    1 1 0 1 0   0 0 1 0 0
  | ended :     Row true false   0 1 0 1 0   0 0 0 0 0
  | never :     Row false false  0 0 0 0 0   0 0 0 0 0
  | rmarked :   Row true true    1 0 0 1 1   0 0 0 1 0
  | rsent :     Row true true    1 0 1 1 1   0 0 0 0 1
  | rended :    Row true false   0 0 1 1 1   0 0 0 0 0

section
variable {m0 mem : Bool} {p c rf nm nr w a b r s : Nat}

theorem phase_iff : Phase m0 mem p c rf nm nr w a b r s ↔ Row m0 mem p c rf nm nr w a b r s := by
  constructor
  · -- every disjunct of `Phase` fixes all twelve arguments (the first up to `w ≤ 1`)
    rintro (⟨rfl, rfl, rfl, rfl, rfl, rfl, rfl, hw, rfl, rfl, rfl, rfl⟩ | h | h | h | h | h | h | h)
    · exact .untouched hw
    all_goals
      obtain ⟨rfl, rfl, rfl, rfl, rfl, rfl, rfl, rfl, rfl, rfl, rfl, rfl⟩ := h
      constructor
  · intro h; cases h <;> simp [Phase, *]

namespace Row

/-! In every transition the hypothesis on a position count leaves one row. -/

theorem window (h : Row m0 true 0 c rf nm nr w a b r s) (hw : w = 0) :
    Row m0 true 0 c rf nm nr (w + 1) a b r s := by
  cases h with
  | untouched => exact .untouched (by omega)

theorem gate (h : Row m0 mem p c rf nm nr w a b r s) (hpos : 1 ≤ w) :
    mem = true ∧ Row m0 mem (p + 1) c rf (nm + 1) nr (w - 1) (a + 1) b r s ∧
      Row m0 mem (p + 1) c rf (nm + 1) (nr + 1) (w - 1) a b (r + 1) s := by
  cases h with
  | untouched hw => obtain rfl : w = 1 := by omega
                    exact ⟨rfl, .marked, .rmarked⟩
  | _ => omega

theorem refusal (h : Row m0 mem p c rf nm nr w a b r s) (hpos : 1 ≤ r) :
    Row m0 mem p c (rf + 1) nm nr w a b (r - 1) (s + 1) := by
  cases h with
  | rmarked => exact .rsent
  | _ => omega

theorem handler (h : Row m0 mem p c rf nm nr w a b r s) (hpos : 1 ≤ a) :
    Row m0 mem p (c + 1) rf nm nr w (a - 1) (b + 1) r s := by
  cases h with
  | marked => exact .called
  | _ => omega

theorem cleanup (h : Row m0 mem p c rf nm nr w a b r s) (hpos : 1 ≤ b) :
    mem = true ∧ Row m0 false (p - 1) c rf nm nr w a (b - 1) r s := by
  cases h with
  | called => exact ⟨rfl, .ended⟩
  | _ => omega

theorem rcleanup (h : Row m0 mem p c rf nm nr w a b r s) (hpos : 1 ≤ s) :
    mem = true ∧ Row m0 false (p - 1) c rf nm nr w a b r (s - 1) := by
  cases h with
  | rsent => exact ⟨rfl, .rended⟩
  | _ => omega

theorem of_never (h : Row false mem p c rf nm nr w a b r s) : mem = false ∧ p = 0 ∧ c = 0 := by
  cases h; simp

theorem fresh (h : Row true mem p c rf 0 nr w a b r s) : mem = true ∧ p = 0 ∧ b = 0 ∧ s = 0 := by
  cases h; simp

theorem quiescent (h : Row true mem p c rf nm nr 0 0 0 0 0) :
    p = 0 ∧ (mem = true ∧ nm = 0 ∨ mem = false ∧
      (c = 1 ∧ rf = 0 ∧ nm = 1 ∧ nr = 0 ∨ c = 0 ∧ rf = 1 ∧ nm = 1 ∧ nr = 1)) := by
  cases h <;> simp

theorem calls_shape (h : Row m0 mem p c rf nm nr w a b r s) :
    (c = 0 ∧ (a ≠ 0 ∨ nm = 0 ∨ (nm = 1 ∧ nr = 1))) ∨ (c = 1 ∧ a = 0) := by
  cases h <;> simp

end Row

/-- what the phases say about the gate: at most one task ever passes it; handler calls are made
    only on behalf of a passing task that is not a refusal; a refusal is sent only by a refusing
    CONNECT that passed -/
theorem phase_gate (h : Phase m0 mem p c rf nm nr w a b r s) :
    nm ≤ 1 ∧ c + nr ≤ nm ∧ rf ≤ nr ∧ c ≤ 1 ∧ (1 ≤ nr → c = 0) ∧ (1 ≤ r + s → nr = 1) := by
  cases phase_iff.mp h <;> simp

end

/-- The invariant ("four phases" of a connected sid — untouched, marked, handler ran, ended —, the
    three of a session that its own connect handler refuses — marked, refusal sent, ended without
    handler — plus the trivial one of a namespace the sid was never connected to): nobody raised,
    nothing was swallowed, and for every namespace the shared variables and the number of tasks at
    each position are in one of the phases. -/
structure Inv (m0 : Ns → Bool) (st : St) : Prop where
  noRaise : ∀ t ∈ st.tasks, t.pc ≠ .raised
  noContained : st.sh.contained = 0
  refNoHandler : ∀ t ∈ st.tasks, t.kind = .refuse → t.pc ≠ .handler
  phase : ∀ n, Phase (m0 n) (st.sh.mem n) (st.sh.pend n) (ncalls st n) (st.sh.refusals n)
            (st.sh.marks n).length (nref (st.sh.marks n))
            (cnt st n 1) (cnt st n 2) (cnt st n 3) (cnt st n 4) (cnt st n 5)

/-- `Phase` of namespace `n` read off the shared state `sh`, with position counts `f` -/
def PhaseAt (m0 : Bool) (sh : Shared) (n : Ns) (f : Nat → Nat) : Prop :=
  Phase m0 (sh.mem n) (sh.pend n) (sh.calls n).length (sh.refusals n) (sh.marks n).length
    (nref (sh.marks n)) (f 1) (f 2) (f 3) (f 4) (f 5)

theorem Inv.phaseAt {m0 : Ns → Bool} {st : St} (hI : Inv m0 st) (n : Ns) :
    PhaseAt (m0 n) st.sh n (cnt st n) := hI.phase n

/-! The effect of each move on the phase of the task's current namespace: the moving task is counted
  in its class (`hpos`), which fixes the row. -/
namespace PhaseAt
variable {m0 : Bool} {sh sh' : Shared} {n : Ns} {f : Nat → Nat}

/-- the phase only reads the counts of the classes 1…5 -/
theorem congr (h : PhaseAt m0 sh n f) {g : Nat → Nat} (e : ∀ k, k ≠ 0 → g k = f k) :
    PhaseAt m0 sh n g := by
  unfold PhaseAt
  rw [e 1 nofun, e 2 nofun, e 3 nofun, e 4 nofun, e 5 nofun]; exact h

theorem frame (h : PhaseAt m0 sh n f) (hs : SameAt sh' sh n) (c : Nat) :
    PhaseAt m0 sh' n (move f c c) := by
  obtain ⟨e1, e2, e3, e4, e5⟩ := hs
  unfold PhaseAt; rw [e1, e2, e3, e4, e5]
  exact h.congr fun k _ => by simp only [move]; omega

theorem window (h : PhaseAt m0 sh n f) (hc : connected sh n = true) (hw : f 1 = 0) :
    PhaseAt m0 sh n (move f 0 1) := by
  simp only [connected, Bool.and_eq_true, beq_iff_eq] at hc
  unfold PhaseAt at h ⊢
  rw [hc.1, hc.2] at h ⊢
  simpa [move] using phase_iff.mpr ((phase_iff.mp h).window hw)

theorem gate (h : PhaseAt m0 sh n f) (hpos : 1 ≤ f 1) (k : Kind) :
    alive sh n = true ∧ PhaseAt m0 (marked sh k n) n (move f 1 (pos k (afterMark k))) := by
  obtain ⟨hm, h2, h4⟩ := (phase_iff.mp h).gate hpos
  refine ⟨by simp [alive, hm], ?_⟩
  by_cases hk : k = .refuse
  · subst hk; simpa [PhaseAt, marked, move, pos, afterMark, nref] using phase_iff.mpr h4
  · have : pos k (afterMark k) = 2 := by cases k <;> simp_all [pos, afterMark]
    have hr : nref (k :: sh.marks n) = nref (sh.marks n) := by simp [nref, hk]
    simpa [PhaseAt, marked, move, this, hr] using phase_iff.mpr h2

theorem cleanup (h : PhaseAt m0 sh n f) (k : Kind) (hpos : 1 ≤ f (pos k .cleanup)) :
    alive sh n = true ∧
    PhaseAt m0 { sh with mem := upd sh.mem n false, pend := upd sh.pend n (sh.pend n - 1) } n
      (move f (pos k .cleanup) 0) := by
  by_cases hk : k = .refuse
  · subst hk
    obtain ⟨hm, h'⟩ := (phase_iff.mp h).rcleanup hpos
    exact ⟨by simp [alive, hm], by simpa [PhaseAt, move, pos] using phase_iff.mpr h'⟩
  · simp only [pos, hk, if_false] at hpos ⊢
    obtain ⟨hm, h'⟩ := (phase_iff.mp h).cleanup hpos
    exact ⟨by simp [alive, hm], by simpa [PhaseAt, move] using phase_iff.mpr h'⟩

end PhaseAt

def noMark (st : St) : Prop := ∀ t ∈ st.tasks, t.pc ≠ .mark

theorem noMark_cnt {st : St} (h : noMark st) (n : Ns) : cnt st n 1 = 0 :=
  List.countP_eq_zero.mpr fun t ht => by simp [cls_eq_one, h t ht]

/-- re-establishing `Inv` after a step of task `i`: only the phase of the task's current namespace
    is left to check -/
theorem Inv.step {m0 : Ns → Bool} {st : St} {i : Nat} {t t' : Task} {sh' : Shared} {a : Bool}
    (hI : Inv m0 st) (hi : st.tasks[i]? = some t) (hs : Step a st.sh t t' sh')
    (hpc : t'.pc ≠ .raised) (hrh : t'.kind = .refuse → t'.pc ≠ .handler) (hc : sh'.contained = 0)
    (hph : ∀ n, t.todo.head? = some n →
      PhaseAt (m0 n) sh' n (move (cnt st n) (cls n t) (cls n t'))) :
    Inv m0 ⟨st.tasks.set i t', sh'⟩ where
  noRaise := forall_mem_set hI.noRaise hpc i
  noContained := hc
  refNoHandler := forall_mem_set hI.refNoHandler hrh i
  phase n := by
    simp only [cnt_mk, cntL_set hi]
    by_cases hn : t.todo.head? = some n
    · exact hph n hn
    · rw [hs.cls_off hn, cls_of_head hn]
      exact (hI.phaseAt n).frame (hs.sameAt (Ne.symm hn)) 0

theorem step_inv (a : Bool) {m0 : Ns → Bool} {st : St} (i : Nat) (hI : Inv m0 st)
    (hadm : a = false → admissible st i = true) (hat : a = true → noMark st) :
    Inv m0 (step a st i) := by
  rcases step_spec a st i with h | ⟨t, t', sh', hi, hs, h⟩ <;> rw [h]
  · exact hI
  have ht := List.mem_of_getElem? hi
  have key := hI.step hi hs
  -- a move that changes neither the class of the task nor the variables of the namespace
  have same : ∀ n, SameAt sh' st.sh n → cls n t' = cls n t →
      PhaseAt (m0 n) sh' n (move (cnt st n) (cls n t) (cls n t')) :=
    fun n h e => e ▸ (hI.phaseAt n).frame h _
  cases hs with
  | chandler | csend | checkNil | checkFail =>
    exact key (by simp) (by simp) hI.noContained
      fun n _ => same n (.refl _ _) (by simp [cls_mk, pos])
  | send k n rest hk =>
    exact key (by simp) (fun h => absurd h hk) hI.noContained
      fun n' _ => same n' (by simp [SameAt]) (by simp [cls_mk, pos, hk])
  | idle t _ =>
    exact key (hI.noRaise t ht) (hI.refNoHandler t ht) hI.noContained
      fun n _ => same n (.refl _ _) rfl
  | window k n rest ha hc =>
    refine key (by simp) (by simp) hI.noContained fun n' hn => ?_
    cases hn
    have hw : cnt st n 1 = 0 := by
      rw [cnt_one]; simpa [admissible, hi] using hadm ha
    rw [cls_self, cls_self]
    exact (hI.phaseAt n).window hc hw
  | gate k n rest p hg ha =>
    refine key (by simp) (by rintro rfl; simp [afterMark]) hI.noContained
      fun n' hn => ?_
    cases hn
    rw [cls_self, cls_self]
    rcases hg with rfl | ⟨rfl, rfl, hc⟩
    · exact ((hI.phaseAt n).gate (cnt_pos_self ht) k).2
    · -- the atomic gate: open the window and pass it at once
      have hw := (hI.phaseAt n).window hc (noMark_cnt (hat rfl) n)
      exact ((hw.gate (by simp [move]) k).2).congr fun _ => move_move _ _
  | gateSwallowed n rest p hg ha | gateRaised k n rest p hg ha =>
    -- the namespace is alive when the gate is passed
    rcases hg with rfl | ⟨rfl, rfl, hc⟩
    · cases ha.symm.trans ((hI.phaseAt n).gate (cnt_pos_self ht) .lost).1
    · simp [connected, alive, Bool.or_eq_false_iff] at hc ha; simp [ha.1] at hc
  | refusal n rest =>
    refine key (by simp) (by simp) hI.noContained fun n' hn => ?_
    cases hn
    simpa [PhaseAt, move, pos, ncalls] using
      phase_iff.mpr ((phase_iff.mp (hI.phase n)).refusal (cnt_pos_self ht))
  | handler k n rest =>
    have hk : k ≠ .refuse := fun h => hI.refNoHandler _ ht h rfl
    refine key (by simp) (by simp) hI.noContained fun n' hn => ?_
    cases hn
    simpa [PhaseAt, move, pos, hk, ncalls] using
      phase_iff.mpr ((phase_iff.mp (hI.phase n)).handler (cnt_pos_self ht))
  | cleanup k n rest ha =>
    refine key (by simp) (by simp) hI.noContained fun n' hn => ?_
    cases hn
    rw [cls_advance, cls_self]
    exact ((hI.phaseAt n).cleanup k (cnt_pos_self ht)).2
  | cleanupGone k n rest ha =>
    cases ha.symm.trans ((hI.phaseAt n).cleanup k (cnt_pos_self ht)).1

end Sio.Sched
