/-
  Algebraic laws of the abstract room specification (`Spec.apply`).  `enter`, `leave` and
  `closeRoom` overwrite `member` with a constant on a set of points and touch nothing else, so
  their laws are the two laws of such an overwrite.  Lifted to the manager model in
  `Sio/Props/C03.lean` through `refines`.
-/
import Sio.Model.RoomsSpec
namespace Sio.Rooms

section
variable (σ : Spec) (p q : Ns → Option Room → Sid → Prop)
  [∀ n r x, Decidable (p n r x)] [∀ n r x, Decidable (q n r x)] (b b' : Bool)

/-- `member` overwritten with `b` on the points satisfying `p` -/
def Spec.setOn : Spec :=
  { σ with member := fun n r x => if p n r x then b else σ.member n r x }

@[simp] theorem Spec.setOn_conn : (σ.setOn p b).conn = σ.conn := rfl

/-- the later overwrite wins -/
theorem Spec.setOn_setOn : (σ.setOn p b').setOn p b = σ.setOn p b := by
  simp only [Spec.setOn]
  congr 1
  funext n r x
  by_cases h : p n r x <;> simp [h]

/-- overwrites with the same value commute -/
theorem Spec.setOn_comm : (σ.setOn p b).setOn q b = (σ.setOn q b).setOn p b := by
  simp only [Spec.setOn]
  congr 1
  funext n r x
  by_cases h : p n r x <;> by_cases h' : q n r x <;> simp [h, h']
end

theorem Spec.apply_enter (σ : Spec) (ns : Ns) (sid : Sid) (room : Room) :
    σ.apply (.enter ns sid room) =
      if (σ.conn ns sid).isSome then σ.setOn (fun n r x => n = ns ∧ r = some room ∧ x = sid) true
      else σ := rfl

theorem Spec.apply_leave (σ : Spec) (ns : Ns) (sid : Sid) (room : Room) :
    σ.apply (.leave ns sid room) = σ.setOn (fun n r x => n = ns ∧ r = some room ∧ x = sid) false :=
  rfl

theorem Spec.apply_closeRoom (σ : Spec) (ns : Ns) (room : Room) :
    σ.apply (.closeRoom ns room) = σ.setOn (fun n r _ => n = ns ∧ r = some room) false := rfl

theorem Spec_enter_idem (σ : Spec) (ns : Ns) (sid : Sid) (r : Room) :
    (σ.apply (.enter ns sid r)).apply (.enter ns sid r) = σ.apply (.enter ns sid r) := by
  by_cases hc : (σ.conn ns sid).isSome <;>
    simp only [Spec.apply_enter, hc, if_true, if_false, Bool.false_eq_true, Spec.setOn_conn,
      Spec.setOn_setOn]

theorem Spec_leave_idem (σ : Spec) (ns : Ns) (sid : Sid) (r : Room) :
    (σ.apply (.leave ns sid r)).apply (.leave ns sid r) = σ.apply (.leave ns sid r) := by
  simp only [Spec.apply_leave, Spec.setOn_setOn]

theorem Spec_enter_comm (σ : Spec) (ns ns' : Ns) (sid sid' : Sid) (r r' : Room) :
    (σ.apply (.enter ns sid r)).apply (.enter ns' sid' r')
      = (σ.apply (.enter ns' sid' r')).apply (.enter ns sid r) := by
  by_cases hc : (σ.conn ns sid).isSome <;> by_cases hc' : (σ.conn ns' sid').isSome <;>
    simp only [Spec.apply_enter, hc, hc', if_true, if_false, Bool.false_eq_true, Spec.setOn_conn]
  exact Spec.setOn_comm ..

theorem Spec_enter_leave (σ : Spec) (ns : Ns) (sid : Sid) (r : Room) :
    (σ.apply (.enter ns sid r)).apply (.leave ns sid r) = σ.apply (.leave ns sid r) := by
  by_cases hc : (σ.conn ns sid).isSome <;>
    simp only [Spec.apply_enter, Spec.apply_leave, hc, if_true, if_false, Bool.false_eq_true,
      Spec.setOn_setOn]

theorem Spec_leave_enter (σ : Spec) (ns : Ns) (sid : Sid) (r : Room)
    (hc : (σ.conn ns sid).isSome = true) :
    (σ.apply (.leave ns sid r)).apply (.enter ns sid r) = σ.apply (.enter ns sid r) := by
  simp only [Spec.apply_enter, Spec.apply_leave, Spec.setOn_conn, hc, if_true, Spec.setOn_setOn]

theorem Spec_close_idem (σ : Spec) (ns : Ns) (r : Room) :
    (σ.apply (.closeRoom ns r)).apply (.closeRoom ns r) = σ.apply (.closeRoom ns r) := by
  simp only [Spec.apply_closeRoom, Spec.setOn_setOn]

theorem Spec_disconnect_idem (σ : Spec) (ns : Ns) (sid : Sid) :
    (σ.apply (.disconnect ns sid)).apply (.disconnect ns sid) = σ.apply (.disconnect ns sid) := by
  simp only [Spec.apply]
  congr 1
  · funext n r' x
    by_cases h : n = ns ∧ x = sid <;> simp [h]
  · funext n x
    by_cases h : n = ns ∧ x = sid <;> simp [h]
  · funext n e
    simp

end Sio.Rooms
