/-
  K6 (pub/sub): the simulation between a cluster that drains after every operation and the single
  reference server — room tables, what every client sees, which disconnect handlers run —
  operation by operation.  (`callback` entries change neither room tables nor packets.)
-/
import Sio.Lemmas.PubSubPlaced
namespace Sio.PubSub
open Sio.Rooms

theorem views_fst (c : Cluster) : c.views.map Prod.fst = c.hosts.map Host.id := by
  simp only [Cluster.views, List.map_map]; rfl

theorem hosts_flatMap_views {β : Type} (c : Cluster) (g : View → List β) :
    c.hosts.flatMap (fun h => g h.view) = c.views.flatMap g := by
  simp only [Cluster.views, List.flatMap_map]

theorem view_mem {c : Cluster} {h : Host} (hh : h ∈ c.hosts) : h.view ∈ c.views :=
  List.mem_map_of_mem hh

/-- the frames-level simulation relation -/
structure Sim (home : Sid → HostId) (ehome : Eio → HostId) (c : Cluster) (s : Single) : Prop where
  placed : Placed home ehome c.views
  sinv : Inv s.srv.rooms
  union : Union c.views s.srv.rooms
  pending : Pending c.hosts c.chan
  chanOk : EmitsOk c.chan
  woId : c.wo.id ∉ c.hosts.map Host.id
  woRooms : c.wo.rooms = []

section sim
variable {home : Sid → HostId} {ehome : Eio → HostId} {c : Cluster} {s : Single}

theorem Sim.ids (hs : Sim home ehome c s) : (c.hosts.map Host.id).Nodup := by
  rw [← views_fst]; exact hs.placed.ids

theorem Sim.hinv (hs : Sim home ehome c s) : ∀ h ∈ c.hosts, Inv h.rooms :=
  fun h hh => hs.placed.inv h.view (view_mem hh)

theorem host_eq_of_id (hs : Sim home ehome c s) {h hv : Host} (hh : h ∈ c.hosts) (hhv : hv ∈ c.hosts)
    (he : h.id = hv.id) : h.view = hv.view :=
  eq_of_map_eq hs.placed.ids (view_mem hh) (view_mem hhv) he

theorem exists_host_of_id {c : Cluster} {hid : HostId} (h : hid ∈ c.views.map Prod.fst) :
    ∃ hv ∈ c.hosts, hv.id = hid := List.mem_map.mp (views_fst c ▸ h)

/-- after `r` (what some operation made of `c`) and a drain pass, the relation holds with `t.1`;
    every client has seen the same packets as in `t.2`, the same disconnect handlers have run -/
def SimAfter (home : Sid → HostId) (ehome : Eio → HostId) (c : Cluster) (r : Cluster × List Out)
    (t : Single × List Out) : Prop :=
  let d := step r.1 .drain
  Sim home ehome d.1 t.1 ∧ (∀ x, seenBy x (r.2 ++ d.2) = seenBy x t.2) ∧
  discEvents (r.2 ++ d.2) = discEvents t.2 ∧ d.1.hosts.map Host.id = c.hosts.map Host.id

/-- the generic step: an API call on `hv`, then a drain, against a step of the single server -/
theorem sim_api (hs : Sim home ehome c s) (op : Op)
    (hop : OpOk home ehome (c.views.map Prod.fst) op) (hv : Host) (hin : hv ∈ c.hosts)
    (f : Host → Res) (hf : ApiLike f c.hosts) (t : Single × List Out)
    (hself : roomsAfterL hv.id (f hv).h.rooms (f hv).pubs = localRooms op hv.view)
    (hother : ∀ h ∈ c.hosts, hv.id ≠ h.id →
      roomsAfterL h.id h.rooms (f hv).pubs = localRooms op h.view)
    (hsingle : t.1.srv.rooms = singleRooms op s.srv.rooms)
    (hseen : ∀ sid, seenBy sid (f hv).outs ++ c.hosts.flatMap (fun h =>
        seenAfterL h.id (if h.id = hv.id then (f h).h.rooms else h.rooms) sid (f hv).pubs) =
          seenBy sid t.2)
    (hdisc : discEvents (f hv).outs ++ c.hosts.flatMap (fun h =>
        discAfterL h.id (if h.id = hv.id then (f h).h.rooms else h.rooms) (f hv).pubs) =
          discEvents t.2) : SimAfter home ehome c (c.on hv.id f) t := by
  obtain ⟨e1, e2, e3, e4, e5, e6⟩ :=
    on_then_drain c hv hin f hf hs.ids hs.hinv hs.pending hs.chanOk
  have hviews : (step (c.on hv.id f).1 .drain).1.views =
      c.views.map (fun v => (v.1, localRooms op v)) := by
    rw [e1, Cluster.views, List.map_map]
    refine List.map_congr_left fun h hh => ?_
    by_cases hid : h.id = hv.id
    · rw [eq_of_map_eq hs.ids hh hin hid, if_pos rfl, hself]; rfl
    · rw [if_neg hid, hother h hh (Ne.symm hid)]; rfl
  obtain ⟨p1, p2⟩ := local_preserves hs.placed hs.union hs.sinv op hop
  refine ⟨⟨?_, ?_, ?_, e2, e3, ?_, ?_⟩, ?_, ?_, ?_⟩
  · rw [hviews]; exact p1
  · rw [hsingle]; exact inv_singleRooms hs.sinv op
  · rw [hviews, hsingle]; exact p2
  · rw [e4, ← views_fst, hviews, map_fst_local, views_fst]; exact hs.woId
  · rw [e4]; exact hs.woRooms
  · intro sid; rw [e5 sid]; exact hseen sid
  · rw [e6]; exact hdisc
  · rw [← views_fst, hviews, map_fst_local, views_fst]

theorem singleEnter_rooms (h : Host) (ns : Ns) (sid : Sid) (room : Room) :
    (singleEnter h ns sid room).h.rooms = enterLocal h.rooms ns sid room := by
  unfold singleEnter enterLocal Rooms.enter
  cases hq : eioOf h.rooms ns sid with
  | none =>
    split
    · rename_i heq
      split at heq <;> cases heq
    · rfl
  | some eio =>
    have hn : hasNs h.rooms ns = true := hasNs_iff.mpr ⟨_, eioOf_some_mem hq, rfl⟩
    simp [hn]

theorem singleEnter_obs (h : Host) (ns : Ns) (sid : Sid) (room : Room) :
    (∀ x, seenBy x (singleEnter h ns sid room).outs = []) ∧
    discEvents (singleEnter h ns sid room).outs = [] ∧ askedIn (singleEnter h ns sid room).outs = [] := by
  unfold singleEnter
  split
  · exact ⟨fun _ => rfl, rfl, rfl⟩
  · exact ⟨fun _ => rfl, rfl, rfl⟩

theorem single_step_rooms (hsinv : Inv s.srv.rooms) (op : Op) :
    (s.step op).1.srv.rooms = singleRooms op s.srv.rooms := by
  cases op with
  | connect | leave | close | deliver | drain => rfl
  | enter via ns sid room => exact singleEnter_rooms _ _ _ _
  | emit via ev d ns to skip cb =>
    exact (emitLocal_rooms s.srv ns to skip.toList (.str ev) d.pack (cb.map Cb.user)).1
  | disconnect via ns sid => exact localDisconnect_rooms s.srv hsinv sid ns
  | ack ns sid n args =>
    simp only [Single.step, singleRooms]
    split
    · split
      · exact (apiAck_effect _ _ _ _).rooms
      · rfl
    · rfl

theorem seenAfterL_single (hid : HostId) (r : Rooms.St) (sid : Sid) (m : Msg) :
    seenAfterL hid r sid [m] = seenAfter hid r sid m := List.append_nil _

end sim

section ops
variable {home : Sid → HostId} {ehome : Eio → HostId} {c : Cluster} {s : Single}

theorem Sim.host_eq (hs : Sim home ehome c s) {h hv : Host} (hh : h ∈ c.hosts) (hhv : hv ∈ c.hosts)
    (he : h.id = hv.id) : h = hv := eq_of_map_eq hs.ids hh hhv he

theorem Sim.not_connected_elsewhere (hs : Sim home ehome c s) {h hv : Host} (hh : h ∈ c.hosts)
    (hhv : hv ∈ c.hosts) (hne : hv.id ≠ h.id) {ns : Ns} {sid : Sid} {eio : Eio}
    (h0 : eioOf hv.rooms ns sid = some eio) : eioOf h.rooms ns sid = none :=
  eioOf_none_elsewhere hs.placed (view_mem hhv) (view_mem hh)
    (fun he => hne (congrArg Prod.fst he).symm) h0

theorem effect_silent (hid : HostId) (x : Sid) (ms : List Msg) (h : ∀ m ∈ ms, m.silent = true)
    (r : Rooms.St) : seenAfterL hid r x ms = [] ∧ discAfterL hid r ms = [] := by
  induction ms generalizing r with
  | nil => exact ⟨rfl, rfl⟩
  | cons m ms ih =>
    have hm := h m List.mem_cons_self
    have i := ih (fun y hy => h y (List.mem_cons_of_mem _ hy)) (roomsAfter hid r m)
    cases m with
    | emit | disconnect => cases hm
    | _ => exact i

/-- `op` followed by a drain pass, against `op` on the single server -/
def SimStep (home : Sid → HostId) (ehome : Eio → HostId) (c : Cluster) (s : Single) (op : Op) : Prop :=
  SimAfter home ehome c (step c op) (s.step op)

/-- a call that sends nothing and publishes room bookkeeping only, against a step of the single
    server that shows nothing either: only the room tables are to be compared -/
theorem sim_silent (hs : Sim home ehome c s) (op : Op)
    (hop : OpOk home ehome (c.views.map Prod.fst) op) (hv : Host) (hin : hv ∈ c.hosts)
    (f : Host → Res) {news : List Sid} (hok : ∀ h, ApiOk h (f h) news ∧ (f h).Silent)
    (t : Single × List Out)
    (hself : roomsAfterL hv.id (f hv).h.rooms (f hv).pubs = localRooms op hv.view)
    (hother : ∀ h ∈ c.hosts, hv.id ≠ h.id →
      roomsAfterL h.id h.rooms (f hv).pubs = localRooms op h.view)
    (hsingle : t.1.srv.rooms = singleRooms op s.srv.rooms)
    (hseen : ∀ x, seenBy x t.2 = []) (hdisc : discEvents t.2 = []) :
    SimAfter home ehome c (c.on hv.id f) t := by
  obtain ⟨ho, hp⟩ := (hok hv).2
  refine sim_api hs op hop hv hin f (.of_ok fun h => (hok h).1) t hself hother hsingle (fun x => ?_) ?_
  · rw [ho, hseen x]; exact List.flatMap_eq_nil_iff.mpr (fun h _ => (effect_silent _ x _ hp _).1)
  · rw [ho, hdisc]; exact List.flatMap_eq_nil_iff.mpr (fun h _ => (effect_silent _ [] _ hp _).2)

theorem sim_connect (hs : Sim home ehome c s) (hid : HostId) (ns : Ns) (eio : Eio) (sid : Sid)
    (hop : OpOk home ehome (c.views.map Prod.fst) (.connect hid ns eio sid)) :
    SimStep home ehome c s (.connect hid ns eio sid) := by
  obtain ⟨hv, hin, rfl⟩ := exists_host_of_id hop.1
  exact sim_silent hs _ hop hv hin _ (fun h => apiConnect_ok h ns eio sid) _ (if_pos rfl).symm
    (fun h _ hne => (if_neg (Ne.symm hne)).symm) (single_step_rooms hs.sinv _) (fun _ => rfl) rfl

theorem sim_enter (hs : Sim home ehome c s) (via : HostId) (ns : Ns) (sid : Sid) (room : Room)
    (hop : OpOk home ehome (c.views.map Prod.fst) (.enter via ns sid room)) :
    SimStep home ehome c s (.enter via ns sid room) := by
  obtain ⟨hv, hin, rfl⟩ := exists_host_of_id hop
  have hobs := singleEnter_obs s.srv ns sid room
  refine sim_silent hs _ hop hv hin _ (fun h => apiEnter_ok h ns sid room) _ ?_ ?_
    (single_step_rooms hs.sinv _) hobs.1 hobs.2.1
  · simp only [apiEnter, localRooms, enterLocal, Host.view]
    cases hq : eioOf hv.rooms ns sid with
    | some eio => rfl
    | none => simp [roomsAfterL, roomsAfter]
  · intro h hh hne
    simp only [apiEnter, localRooms, enterLocal, Host.view]
    cases hq : eioOf hv.rooms ns sid with
    | some eio =>
      simp only [roomsAfterL, List.foldl_nil, hs.not_connected_elsewhere hh hin hne hq]
    | none =>
      simp only [roomsAfterL, List.foldl_cons, List.foldl_nil, roomsAfter, if_neg hne]
      rfl

theorem sim_leave (hs : Sim home ehome c s) (via : HostId) (ns : Ns) (sid : Sid) (room : Room)
    (hop : OpOk home ehome (c.views.map Prod.fst) (.leave via ns sid room)) :
    SimStep home ehome c s (.leave via ns sid room) := by
  obtain ⟨hv, hin, rfl⟩ := exists_host_of_id hop
  refine sim_silent hs _ hop hv hin _ (fun h => apiLeave_ok h ns sid room) _ ?_ ?_
    (single_step_rooms hs.sinv _) (fun _ => rfl) rfl
  · simp only [apiLeave, localRooms, Host.view, Host.connected]
    by_cases hc : (eioOf hv.rooms ns sid).isSome = true
    · simp [hc, roomsAfterL]
    · have hq := Option.not_isSome_iff_eq_none.mp hc
      simp [hq, roomsAfterL, roomsAfter, leave_noop_of_not_connected (hs.hinv hv hin) (some room) hq]
  · intro h hh hne
    simp only [apiLeave, localRooms, Host.view, Host.connected]
    by_cases hc : (eioOf hv.rooms ns sid).isSome = true
    · obtain ⟨eio, hq⟩ := Option.isSome_iff_exists.mp hc
      have hn := hs.not_connected_elsewhere hh hin hne hq
      simp [hc, roomsAfterL, leave_noop_of_not_connected (hs.hinv h hh) (some room) hn]
    · simp [hc, roomsAfterL, roomsAfter, hne]

theorem sim_close (hs : Sim home ehome c s) (via : HostId) (ns : Ns) (room : Room)
    (hop : OpOk home ehome (c.views.map Prod.fst) (.close via ns room)) :
    SimStep home ehome c s (.close via ns room) := by
  obtain ⟨hv, hin, rfl⟩ := exists_host_of_id hop
  refine sim_silent hs _ hop hv hin _ (fun h => apiClose_ok h ns room) _ ?_ ?_
    (single_step_rooms hs.sinv _) (fun _ => rfl) rfl
  · simp [apiClose, localRooms, Host.view, roomsAfterL, roomsAfter]
  · intro h hh hne
    simp [hne, apiClose, localRooms, Host.view, roomsAfterL, roomsAfter]

/-- a published `disconnect` is noticed on exactly the host where the session lives -/
theorem disc_union {β : Type} {vs : List View} {st : Rooms.St} (hp : Placed home ehome vs)
    (hu : Union vs st) (hst : Inv st) (hv : View) (hin : hv ∈ vs) (ns : Ns) (sid : Sid)
    (hq : eioOf hv.2 ns sid = none) (q : Prop) [Decidable q] (a : β) :
    vs.flatMap (fun v => if hv.1 = v.1 then [] else
        if q ∧ (eioOf v.2 ns sid).isSome then [a] else []) =
      if q ∧ (eioOf st ns sid).isSome then [a] else [] := by
  have huniq : ∀ x ∈ vs, ∀ y ∈ vs, q ∧ (eioOf x.2 ns sid).isSome → q ∧ (eioOf y.2 ns sid).isSome →
      x = y := by
    intro x hx y hy px py
    obtain ⟨e1, h1⟩ := Option.isSome_iff_exists.mp px.2
    obtain ⟨e2, h2⟩ := Option.isSome_iff_exists.mp py.2
    exact hp.same_host hx hy (eioOf_some_mem h1) (eioOf_some_mem h2) rfl
  have h0 : ¬ (q ∧ (eioOf hv.2 ns sid).isSome) := by rw [hq]; exact fun hc => nomatch hc.2
  have := flatMap_unique_split vs Prod.fst hp.ids (fun v => q ∧ (eioOf v.2 ns sid).isSome) a huniq hin
  rw [if_neg h0, List.nil_append] at this
  rw [this, flatMap_unique vs (nodup_of_nodup_map hp.ids) _ a huniq]
  refine ite_congr (propext ⟨?_, ?_⟩) (fun _ => rfl) (fun _ => rfl)
  · rintro ⟨v, hvv, hq1, hq2⟩
    obtain ⟨eio, he⟩ := Option.isSome_iff_exists.mp hq2
    exact ⟨hq1, by rw [(union_eioOf hp hu hst ns sid eio).mpr ⟨v, hvv, he⟩]; rfl⟩
  · rintro ⟨hq1, hq2⟩
    obtain ⟨eio, he⟩ := Option.isSome_iff_exists.mp hq2
    obtain ⟨v, hvv, hev⟩ := (union_eioOf hp hu hst ns sid eio).mp he
    exact ⟨v, hvv, hq1, by rw [hev]; rfl⟩

theorem sim_disconnect (hs : Sim home ehome c s) (via : HostId) (ns : Ns) (sid : Sid)
    (hop : OpOk home ehome (c.views.map Prod.fst) (.disconnect via ns sid)) :
    SimStep home ehome c s (.disconnect via ns sid) := by
  obtain ⟨hv, hin, rfl⟩ := exists_host_of_id hop
  have hf : ApiLike (fun h => apiDisconnect h ns sid) c.hosts := .of_ok (fun h => apiDisconnect_ok h ns sid)
  have hsobs := localDisconnect_obs s.srv sid ns
  by_cases hc : (eioOf hv.rooms ns sid).isSome = true
  · -- the session lives on the host that was asked
    obtain ⟨eio, hq⟩ := Option.isSome_iff_exists.mp hc
    have hsq : eioOf s.srv.rooms ns sid = some eio :=
      (union_eioOf hs.placed hs.union hs.sinv ns sid eio).mpr ⟨hv.view, view_mem hin, hq⟩
    have hfv : apiDisconnect hv ns sid = localDisconnect hv sid ns := by
      simp [apiDisconnect, Host.connected, hc]
    have hvobs := localDisconnect_obs hv sid ns
    refine sim_api hs _ hop hv hin _ hf _ ?_ ?_ (single_step_rooms hs.sinv _) ?_ ?_ <;>
      rw [hfv, hvobs.2.2.1]
    · exact localDisconnect_rooms hv (hs.hinv hv hin) sid ns
    · intro h hh hne
      exact (disconnect_noop_of_not_connected (hs.hinv h hh)
        (hs.not_connected_elsewhere hh hin hne hq)).symm
    · intro x
      rw [hvobs.2.2.2.1 x]
      show _ = seenBy x (localDisconnect s.srv sid ns).outs
      rw [hsobs.2.2.2.1 x, hq, hsq]
      exact List.append_right_eq_self.mpr (List.flatMap_eq_nil_iff.mpr fun _ _ => rfl)
    · rw [hvobs.2.2.2.2]
      show _ = discEvents (localDisconnect s.srv sid ns).outs
      rw [hsobs.2.2.2.2, hq, hsq]
      exact List.append_right_eq_self.mpr (List.flatMap_eq_nil_iff.mpr fun _ _ => rfl)
  · -- it lives elsewhere (or nowhere): the request is published
    have hq := Option.not_isSome_iff_eq_none.mp hc
    have hfv : apiDisconnect hv ns sid = { h := hv, pubs := [Msg.disconnect hv.id sid ns] } := by
      simp [apiDisconnect, Host.connected, hq]
    have hrooms_eq : ∀ h ∈ c.hosts,
        (if h.id = hv.id then (apiDisconnect h ns sid).h.rooms else h.rooms) = h.rooms :=
      fun h hh => ite_eq_right_iff.mpr fun hid => by rw [hs.host_eq hh hin hid, hfv]
    refine sim_api hs _ hop hv hin _ hf _ ?_ ?_ (single_step_rooms hs.sinv _) ?_ ?_ <;> rw [hfv]
    · exact ((if_pos rfl).trans (disconnect_noop_of_not_connected (hs.hinv hv hin) hq).symm :)
    · intro h hh hne
      exact (if_neg hne :)
    · intro x
      show [] ++ _ = seenBy x (localDisconnect s.srv sid ns).outs
      rw [List.nil_append, hsobs.2.2.2.1 x]
      rw [flatMap_congr' (g := fun h => seenAfter h.id h.rooms x (Msg.disconnect hv.id sid ns))
        (fun h hh => by rw [hrooms_eq h hh, seenAfterL_single])]
      exact (hosts_flatMap_views c _).trans (disc_union hs.placed hs.union hs.sinv hv.view
        (view_mem hin) ns sid hq (sid = x) (Seen.disconnect ns))
    · show [] ++ _ = discEvents (localDisconnect s.srv sid ns).outs
      rw [List.nil_append, hsobs.2.2.2.2]
      rw [flatMap_congr' (g := fun h => discAfter h.id h.rooms (Msg.disconnect hv.id sid ns))
        (fun h hh => by rw [hrooms_eq h hh]; exact List.append_nil _)]
      have := disc_union hs.placed hs.union hs.sinv hv.view (view_mem hin) ns sid hq True (sid, ns)
      rw [← hosts_flatMap_views] at this
      simpa [discAfter, Host.view] using this

theorem single_emit_obs (hsinv : Inv s.srv.rooms) (via : Option HostId) (ev : Str) (d : Data) (ns : Ns)
    (to : Target) (skip : Skip) (cb : Option Nat) :
    (∀ x, seenBy x (s.step (.emit via ev d ns to skip cb)).2 =
      seenEmit s.srv.rooms ns to skip.toList (.str ev) d.pack cb.isSome x) ∧
    discEvents (s.step (.emit via ev d ns to skip cb)).2 = [] := by
  refine ⟨fun x => ?_, ?_⟩
  · show seenBy x (emitLocal s.srv ns to skip.toList (.str ev) d.pack (cb.map Cb.user)).2 = _
    rw [seenBy_emitLocal s.srv hsinv]
    cases cb <;> rfl
  · exact discEvents_emitLocal s.srv ns to _ _ _ _

theorem sim_emit_host (hs : Sim home ehome c s) (via : HostId) (ev : Str) (d : Data) (ns : Ns)
    (to : Target) (skip : Skip) (cb : Option Nat)
    (hop : OpOk home ehome (c.views.map Prod.fst) (.emit (some via) ev d ns to skip cb)) :
    SimStep home ehome c s (.emit (some via) ev d ns to skip cb) := by
  obtain ⟨hv, hin, rfl⟩ := exists_host_of_id (hop.1 via rfl)
  have hok := hop.2.1
  have heff := fun (h : Host) (hi : Inv h.rooms) =>
    apiEmit_effect h hi ev d ns to skip cb hok fun h => (hop.2.2 h).2
  have hf : ApiLike (fun h => apiEmit h true ev d ns to skip cb) c.hosts := by
    refine ⟨?_, ?_, ?_, ?_⟩
    · intro h hh; exact (heff h (hs.hinv h hh)).2.1
    · intro h hh; exact (heff h (hs.hinv h hh)).2.2.1
    · intro h hh hi; rw [(heff h hi).1]; exact hi
    · intro h hh; exact (heff h (hs.hinv h hh)).2.2.2.1 ▸ .emit hok
  have hsobs := single_emit_obs (s := s) hs.sinv (some hv.id) ev d ns to skip cb
  have hvE := heff hv (hs.hinv hv hin)
  have hrooms_eq : ∀ h ∈ c.hosts,
      (if h.id = hv.id then (apiEmit h true ev d ns to skip cb).h.rooms else h.rooms) = h.rooms :=
    fun h hh => ite_eq_right_iff.mpr fun _ => (heff h (hs.hinv h hh)).1
  refine sim_api hs _ hop hv hin _ hf _ ?_ ?_
    (single_step_rooms hs.sinv _) ?_ ?_
  · rw [hvE.2.2.2.1]
    exact hvE.1
  · intro h _ _
    rw [hvE.2.2.2.1]
    rfl
  · intro x
    rw [hvE.2.2.2.2.2.1 x, hsobs.1 x, hvE.2.2.2.1]
    rw [← seenEmit_union_split hs.placed hs.union hs.sinv ns to skip.toList (.str ev) d.pack
      cb.isSome x hv.view (view_mem hin), ← hosts_flatMap_views]
    refine congrArg (_ ++ ·) (flatMap_congr' fun h hh => ?_)
    rw [hrooms_eq h hh, seenAfterL_single]
    simp only [seenAfter, hvE.2.2.2.2.1, Host.view]
    rfl
  · rw [hvE.2.2.2.2.2.2, hsobs.2, hvE.2.2.2.1, List.nil_append]
    exact List.flatMap_eq_nil_iff.mpr (fun h _ => by simp [discAfterL, discAfter])

/-- the hosts stand still while `P` goes onto the channel, and draining it moves no room table -/
theorem sim_published (hs : Sim home ehome c s) {r : Cluster × List Out} (P : List Msg)
    (hh : r.1.hosts = c.hosts) (hc : r.1.chan = c.chan ++ P) (hw : r.1.wo = c.wo) (hr : r.2 = [])
    (hP : EmitsOk P) {t : Single × List Out} (hsr : t.1.srv.rooms = s.srv.rooms)
    (hrooms : ∀ h ∈ c.hosts, roomsAfterL h.id h.rooms P = h.rooms)
    (hseen : ∀ x, c.hosts.flatMap (fun h => seenAfterL h.id h.rooms x P) = seenBy x t.2)
    (hdisc : c.hosts.flatMap (fun h => discAfterL h.id h.rooms P) = discEvents t.2) :
    SimAfter home ehome c r t := by
  obtain ⟨e1, e2, e3, e4, e5, e6⟩ := drain_effect r.1 c.chan P hc (hh ▸ hs.hinv) (hh ▸ hs.pending)
    (hc ▸ hs.chanOk.append hP)
  rw [hh] at e1 e5 e6
  -- nothing moved: same views, same single table
  have hviews : (step r.1 .drain).1.views = c.views :=
    e1.trans (List.map_congr_left fun h hm => by rw [hrooms h hm]; rfl)
  have hwo := e4.trans hw
  exact ⟨⟨hviews ▸ hs.placed, hsr ▸ hs.sinv, by rw [hviews, hsr]; exact hs.union, e2, e3,
      by rw [hwo, ← views_fst, hviews, views_fst]; exact hs.woId, hwo ▸ hs.woRooms⟩,
    fun x => by rw [hr, List.nil_append, e5 x, hseen x],
    by rw [hr, List.nil_append, e6, hdisc], by rw [← views_fst, hviews, views_fst]⟩

theorem sim_emit_wo (hs : Sim home ehome c s) (ev : Str) (d : Data) (ns : Ns)
    (to : Target) (skip : Skip) (cb : Option Nat)
    (hop : OpOk home ehome (c.views.map Prod.fst) (.emit none ev d ns to skip cb)) :
    SimStep home ehome c s (.emit none ev d ns to skip cb) := by
  obtain ⟨_, hok, hcb⟩ := hop
  cases cb with
  | some tok => exact nomatch (hcb rfl).1
  | none =>
    have hw := apiEmit_wo c.wo hs.woRooms ev d ns to skip hok
    have hsobs := single_emit_obs (s := s) hs.sinv none ev d ns to skip none
    refine sim_published hs [Msg.emit c.wo.id ev d ns to skip none] rfl (congrArg (c.chan ++ ·.pubs) hw)
      (congrArg Res.h hw) (congrArg Res.outs hw) (.emit hok) (single_step_rooms hs.sinv _)
      (fun _ _ => rfl) (fun x => ?_) ?_
    · rw [hsobs.1 x, ← seenEmit_union hs.placed hs.union hs.sinv, ← hosts_flatMap_views]
      apply flatMap_congr'
      intro h hh
      have hne : ¬ c.wo.id = h.id := fun he => hs.woId (he ▸ List.mem_map_of_mem hh)
      rw [seenAfterL_single]
      simp only [seenAfter, if_neg hne, Host.view, Option.isSome_none]
    · rw [hsobs.2]
      exact List.flatMap_eq_nil_iff.mpr (fun h _ => by simp [discAfterL, discAfter])

theorem single_ack_obs (ns : Ns) (sid : Sid) (n : Nat) (args : List J) :
    (∀ x, seenBy x (s.step (.ack ns sid n args)).2 = []) ∧
    discEvents (s.step (.ack ns sid n args)).2 = [] ∧ askedIn (s.step (.ack ns sid n args)).2 = [] := by
  simp only [Single.step]
  split
  · split
    · have := apiAck_effect s.srv sid ‹Nat› args
      exact ⟨this.seen, this.disc, this.asked⟩
    · exact ⟨fun _ => rfl, rfl, rfl⟩
  · exact ⟨fun _ => rfl, rfl, rfl⟩

theorem seenAfterL_allCb' (hid : HostId) (r : Rooms.St) (x : Sid) (ms : List Msg) (h : AllCb ms) :
    seenAfterL hid r x ms = [] := (effect_allCb hid r x h).2.1

theorem sim_ack (hs : Sim home ehome c s) (ns : Ns) (sid : Sid) (n : Nat) (args : List J) :
    SimStep home ehome c s (.ack ns sid n args) := by
  unfold SimStep
  have hsobs := single_ack_obs (s := s) ns sid n args
  rcases step_ack c ns sid n args with hr | ⟨hv, hin, i, hr⟩
  · rw [hr]
    exact sim_published hs [] rfl (List.append_nil _).symm rfl rfl .nil
      (single_step_rooms hs.sinv _) (fun _ _ => rfl)
      (fun x => (hsobs.1 x).symm ▸ List.flatMap_eq_nil_iff.mpr fun _ _ => rfl)
      (hsobs.2.1.symm ▸ List.flatMap_eq_nil_iff.mpr fun _ _ => rfl)
  · have heff := apiAck_effect hv sid i args
    have hf : ApiLike (fun h => apiAck h sid i args) c.hosts := .of_ok (fun h => apiAck_ok h sid i args)
    have := sim_api hs (.ack ns sid n args) trivial hv hin _ hf (s.step (.ack ns sid n args)) ?_ ?_
      (single_step_rooms hs.sinv _) ?_ ?_
    · rw [hr]; exact this
    · rw [(effect_allCb _ _ [] heff.pubs).1]
      exact heff.rooms
    · intro h _ _
      rw [(effect_allCb _ _ [] heff.pubs).1]
      rfl
    · intro x
      rw [heff.seen x, hsobs.1 x, List.nil_append]
      exact List.flatMap_eq_nil_iff.mpr (fun h _ => (effect_allCb _ _ x heff.pubs).2.1)
    · rw [heff.disc, hsobs.2.1, List.nil_append]
      exact List.flatMap_eq_nil_iff.mpr (fun h _ => (effect_allCb _ _ [] heff.pubs).2.2)

/-- **One step of the frames-level simulation**: the relation is re-established after the
    operation and the drain, every client has seen the same packets, the same disconnect handlers
    have run. -/
theorem sim_step (hs : Sim home ehome c s) (op : Op)
    (hop : OpOk home ehome (c.views.map Prod.fst) op) :
    let r := step c op
    let d := step r.1 .drain
    let t := s.step op
    Sim home ehome d.1 t.1 ∧ (∀ x, seenBy x (r.2 ++ d.2) = seenBy x t.2) ∧
    discEvents (r.2 ++ d.2) = discEvents t.2 ∧ d.1.hosts.map Host.id = c.hosts.map Host.id := by
  cases op with
  | connect hid ns eio sid => exact sim_connect hs hid ns eio sid hop
  | enter via ns sid room => exact sim_enter hs via ns sid room hop
  | leave via ns sid room => exact sim_leave hs via ns sid room hop
  | close via ns room => exact sim_close hs via ns room hop
  | emit via ev d ns to skip cb =>
    cases via with
    | none => exact sim_emit_wo hs ev d ns to skip cb hop
    | some v => exact sim_emit_host hs v ev d ns to skip cb hop
  | disconnect via ns sid => exact sim_disconnect hs via ns sid hop
  | ack ns sid n args => exact sim_ack hs ns sid n args
  | deliver | drain => exact False.elim hop

end ops

end Sio.PubSub
