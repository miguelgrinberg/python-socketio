/-
  C02 — the receiver run against C01: one frame group is `decode_encode` for the text frame and
  `feed_encode` for the attachments (`receive_send`), a sequence of groups is an induction; the
  constructor on `Msg` (`wf_of_mkPacket`), dispatch, and the msgpack class (one frame per packet).
-/
import Sio.Lemmas.ArgsDefs
import Sio.Lemmas.CodecPacket
namespace Sio
namespace Args

variable {cls : Char → DC} {loads : Str → Except Err J} {dumps : J → Str}

theorem send_of_encode {p : Packet} {s : Str} {atts : List Bytes}
    (h : encode dumps p = (s, some atts)) : send dumps p = .text s :: atts.map .bin := by
  simp [send, h]

theorem receiveFrom_nil (st : Option Partial) :
    receiveFrom cls loads st [] = .ok ([], st) := rfl

theorem receiveFrom_cons (st : Option Partial) (f : Frame) (fs : List Frame) :
    receiveFrom cls loads st (f :: fs) = (do
      let (st', out) ← rxStep cls loads st f
      let (rest, fin) ← receiveFrom cls loads st' fs
      pure ((match out with | some p => p :: rest | none => rest), fin)) := rfl

/-- prepend a completed packet to the outcome of the rest of the run -/
def consOut (pk : Packet) (r : Except Err (List Packet × Option Partial)) :
    Except Err (List Packet × Option Partial) :=
  r.map (fun x => (pk :: x.1, x.2))

theorem receiveFrom_feed {bs : List Frame} {pt : Partial} {pk : Packet} (rest : List Frame)
    (h : feed pt (bs.map Frame.toJ) = .ok (.inr pk)) :
    receiveFrom cls loads (some pt) (bs ++ rest) = consOut pk (receiveFrom cls loads none rest) := by
  induction bs generalizing pt with
  | nil => simp [feed] at h
  | cons b bs ih =>
    simp only [List.map_cons, feed] at h
    cases ha : addAttachment pt b.toJ with
    | error e => simp [ha, bind, Except.bind] at h
    | ok r =>
      cases r with
      | more pt' =>
        simp only [ha, bind, Except.bind] at h
        have := ih h
        simp only [List.cons_append, receiveFrom_cons, rxStep, ha, bind, Except.bind, pure,
          Except.pure, this, consOut, Except.map]
        cases receiveFrom cls loads none rest <;> rfl
      | complete pk' =>
        simp only [ha, bind, Except.bind] at h
        cases bs with
        | nil =>
          simp only [List.map_nil, pure, Except.pure, Except.ok.injEq, Sum.inr.injEq] at h
          subst h
          simp only [List.cons_append, List.nil_append, receiveFrom_cons, rxStep, ha, bind,
            Except.bind, pure, Except.pure, consOut, Except.map]
        | cons c cs => simp at h

/-- `decode_encode` reads the text frame as the wire packet.  Of a binary type it is parked, and the
    attachment frames complete it (`feed_encode`, carried over to the receiver by
    `receiveFrom_feed`); otherwise there is no attachment, the wire packet is `p.norm` and it is
    complete at once. -/
theorem receive_send (hcls : AsciiCls cls) {p : Packet} (hs : Sendable cls loads dumps p)
    (rest : List Frame) :
    receiveFrom cls loads none (send dumps p ++ rest)
      = consOut p.norm (receiveFrom cls loads none rest) := by
  have hcore := wf_core hs.wf
  have hdec := decode_encode (cls := cls) (loads := loads) (dumps := dumps) hcls hs.rt
    (fun j h => payloadOK_of_startOK hcls p (hs.start j h)) hcore
  have hfeed := feed_encode (dumps := dumps) hcore
  simp only [send, List.cons_append, receiveFrom_cons, rxStep, hdec, bind, Except.bind]
  have hty : p.wire.type = p.type := rfl
  cases hb : isBinType p.type with
  | true =>
    simp only [hty, hb, if_true, pure, Except.pure]
    have hne := hs.bin hb
    simp only [hne, if_false] at hfeed
    have hmap : ((encode dumps p).2.getD []).map J.bin
        = (((encode dumps p).2.getD []).map Frame.bin).map Frame.toJ := by
      simp [Frame.toJ, Function.comp_def]
    rw [hmap] at hfeed
    rw [receiveFrom_feed (cls := cls) (loads := loads) rest hfeed]
    simp only [consOut, Except.map]
    cases receiveFrom cls loads none rest <;> rfl
  | false =>
    have ha : p.atts = [] := by simp [Packet.atts, hb]
    have hnil : (encode dumps p).2.getD [] = [] := by rw [encode_atts, ha]
    have hw : p.wire = p.norm := wire_of_atts_nil ha
    have hb' : isBinType p.norm.type = false := hb
    simp only [hnil, List.map_nil, List.nil_append, pure, Except.pure, hw, hb', consOut,
      Except.map, Bool.false_eq_true, if_false]

theorem receive_sendAll (hcls : AsciiCls cls) (ps : List Packet)
    (hs : ∀ p ∈ ps, Sendable cls loads dumps p) :
    receive cls loads (sendAll dumps ps) = .ok (ps.map Packet.norm, none) := by
  unfold receive sendAll
  induction ps with
  | nil => rfl
  | cons p ps ih =>
    have hp := hs p (by simp)
    have ih' := ih (fun q hq => hs q (by simp [hq]))
    simp only [List.flatMap_cons, receive_send hcls hp, ih', consOut, Except.map, List.map_cons]

theorem mkEvent_eq (ub : Bool) (ev : Str) (d : Data) (ns : Str) (id : Option Nat) :
    mkEvent ub ev d ns id = .ok (Msg.packet ub (.event ev d ns id)) := by
  simp only [mkEvent, mkPacket, Msg.packet, Msg.payload, Msg.baseType, Msg.ns, Msg.id]
  cases ub <;> by_cases h : (eventPayload ev d).isBinary = true <;> simp [h]

theorem mkAck_eq (ub : Bool) (ret : Data) (ns : Str) (id : Nat) :
    mkAck ub ret ns id = .ok (Msg.packet ub (.ack ret ns id)) := by
  simp only [mkAck, mkPacket, Msg.packet, Msg.payload, Msg.baseType, Msg.ns, Msg.id]
  cases ub <;> by_cases h : (ackPayload ret).isBinary = true <;> simp [h, ACK, EVENT]

theorem mkPacket_msg (m : Msg) :
    mkPacket true m.baseType (some m.payload) (some m.ns) m.id none = .ok (m.packet true) := by
  cases m with
  | event ev d ns id => exact mkEvent_eq true ev d ns id
  | ack ret ns id => exact mkAck_eq true ret ns id

theorem msg_isBinType (m : Msg) : isBinType (m.packet true).type = m.payload.isBinary := by
  unfold Msg.packet
  cases m <;> cases (Msg.payload _).isBinary <;> rfl

theorem msg_atts (m : Msg) : (m.packet true).atts = binLeaves m.payload := by
  unfold Packet.atts
  rw [msg_isBinType]
  cases hb : m.payload.isBinary with
  | true => rfl
  | false => exact ((isBinary_false_iff_leaves _).mp hb).symm

theorem msg_wire_data (m : Msg) : ((m.packet true).wire).data = some m.wireJson := by
  by_cases h : (m.packet true).atts = []
  · rw [wire_of_atts_nil h]
    rw [msg_atts] at h
    exact congrArg some (decon_noBin _ [] ((noBin_iff_leaves _).mpr h)).symm
  · obtain ⟨j, hd, _, hw⟩ := data_of_atts_ne h
    cases hd; exact hw

theorem msg_topOK (m : Msg) : TopOK m.payload = true := by
  cases m <;> rfl

theorem msg_sendable (m : Msg) (hdom : m.InDomain = true)
    (hrt : loads (J.dumps m.wireJson) = .ok m.wireJson) :
    Sendable cls loads J.dumps (m.packet true) := by
  simp only [Msg.InDomain, Bool.and_eq_true] at hdom
  have hwf : WF (m.packet true) = true := wf_of_mkPacket hdom.1 (mkPacket_msg m)
  refine ⟨hwf, ?_, ?_, ?_⟩
  · intro j hj
    rw [msg_wire_data] at hj
    cases hj; exact hrt
  · intro j hj
    exact dumps_startOK j (wire_json_hyps hwf hj).2
  · intro hb
    rw [encode_atts, msg_atts]
    exact (isBinary_iff_leaves m.payload).mp (msg_isBinType m ▸ hb)

theorem msg_norm_ns (m : Msg) (hdom : m.InDomain = true) :
    ((m.packet true).norm.nsp).getD ['/'] = m.ns := by
  simp only [Msg.InDomain, Bool.and_eq_true, Bool.not_eq_true'] at hdom
  simp only [Packet.norm, Msg.packet, normNs]
  by_cases h : m.ns = ['/']
  · simp [h]
  · have hq : ∀ c ∈ m.ns, (c != '?') = true := fun c hc => bne_iff_ne.mpr fun e => by
      have := List.contains_iff_mem.mpr (e ▸ hc); rw [hdom.2] at this; cases this
    simp [h, takeWhile_all hq]

/-- what is dispatched depends on the kind of the type and on the namespace as a path only -/
theorem dispatch_payload (m : Msg) {t : Nat} {nsp : Option Str}
    (ht : t = m.baseType ∨ t = if m.baseType = EVENT then BINARY_EVENT else BINARY_ACK)
    (hns : nsp.getD ['/'] = m.ns) : dispatch ⟨t, nsp, m.id, some m.payload⟩ = .ok m.expected := by
  cases m <;> rcases ht with rfl | rfl <;> subst hns <;> rfl

theorem packet_type (ub : Bool) (m : Msg) : (m.packet ub).type = m.baseType ∨
    (m.packet ub).type = if m.baseType = EVENT then BINARY_EVENT else BINARY_ACK := by
  unfold Msg.packet; dsimp only; split
  · exact .inr rfl
  · exact .inl rfl

theorem dispatch_msg (m : Msg) (hdom : m.InDomain = true) :
    dispatch (m.packet true).norm = .ok m.expected :=
  dispatch_payload m (packet_type true m) (msg_norm_ns m hdom)

theorem mapM_map_ok {α β γ ε : Type} (l : List α) (p : α → β) (f : β → Except ε γ) (g : α → γ)
    (h : ∀ a ∈ l, f (p a) = .ok (g a)) : (l.map p).mapM f = .ok (l.map g) := by
  induction l with
  | nil => rfl
  | cons a l ih =>
    simp [List.mapM_cons, h a (by simp), ih fun b hb => h b (by simp [hb]), bind, Except.bind,
      pure, Except.pure]
theorem deliver_msgs (hcls : AsciiCls cls) (ms : List Msg)
    (hdom : ∀ m ∈ ms, m.InDomain = true)
    (hrt : ∀ m ∈ ms, loads (J.dumps m.wireJson) = .ok m.wireJson) :
    deliver cls loads (sendAll J.dumps (ms.map (Msg.packet true)))
      = .ok (ms.map Msg.expected, none) := by
  have hs : ∀ p ∈ ms.map (Msg.packet true), Sendable cls loads J.dumps p := by
    intro p hp
    obtain ⟨m, hm, rfl⟩ := List.mem_map.mp hp
    exact msg_sendable m (hdom m hm) (hrt m hm)
  have hr := receive_sendAll hcls _ hs
  have hd := mapM_map_ok ms (fun m => (m.packet true).norm) dispatch Msg.expected
    fun m hm => dispatch_msg m (hdom m hm)
  simp only [List.map_map, Function.comp_def] at hr
  simp only [deliver, hr, bind, Except.bind, hd, pure, Except.pure]

theorem receive_msg (hcls : AsciiCls cls) (m : Msg) (hdom : m.InDomain = true)
    (hrt : loads (J.dumps m.wireJson) = .ok m.wireJson) :
    receive cls loads (send J.dumps (m.packet true)) = .ok ([(m.packet true).norm], none) := by
  have := receive_send hcls (msg_sendable (cls := cls) m hdom hrt) []
  simpa only [List.append_nil, receiveFrom_nil, consOut, Except.map, receive] using this

theorem deliver_msg (hcls : AsciiCls cls) (m : Msg) (hdom : m.InDomain = true)
    (hrt : loads (J.dumps m.wireJson) = .ok m.wireJson) :
    deliver cls loads (send J.dumps (m.packet true)) = .ok ([m.expected], none) := by
  simpa [sendAll] using deliver_msgs hcls [m] (by simpa using hdom) (by simpa using hrt)

theorem lookup_kType (t d n : J) (rest : List (Str × J)) :
    lookup kType ((kType, t) :: (kData, d) :: (kNsp, n) :: rest) = some t := by
  simp [lookup]

theorem lookup_kData (t d n : J) (rest : List (Str × J)) :
    lookup kData ((kType, t) :: (kData, d) :: (kNsp, n) :: rest) = some d := by
  simp [lookup, kType, kData]

theorem lookup_kNsp (t d n : J) (rest : List (Str × J)) :
    lookup kNsp ((kType, t) :: (kData, d) :: (kNsp, n) :: rest) = some n := by
  simp [lookup, kType, kData, kNsp]

theorem lookup_kId (t d n : J) (rest : List (Str × J)) :
    lookup kId ((kType, t) :: (kData, d) :: (kNsp, n) :: rest) = lookup kId rest := by
  simp [lookup, kType, kData, kNsp, kId]

theorem ofDict_toDict (t : Nat) (ns : Str) (id : Option Nat) (j : J) (hj : j ≠ .null) :
    ofDict (toDict ⟨t, some ns, id, some j⟩) = .ok ⟨t, some ns, id, some j⟩ := by
  have ht : ¬ ((t : Int) < 0) := by omega
  simp only [toDict, Option.getD_some, List.cons_append, List.nil_append, ofDict, lookup_kType,
    lookup_kNsp, lookup_kData, lookup_kId, ht, if_false]
  -- `data` is read back as it is unless it is `null`; the `id` entry is there iff the packet has one
  cases j with
  | null => exact absurd rfl hj
  | _ =>
    cases id with
    | none => simp [lookup, bind, Except.bind, pure, Except.pure]
    | some i =>
      have hi : ¬ ((i : Int) < 0) := by omega
      simp [lookup, hi, bind, Except.bind, pure, Except.pure]

theorem ofDict_toDict_msg (m : Msg) : ofDict (toDict (m.packet false)) = .ok (m.packet false) := by
  simpa [Msg.packet] using ofDict_toDict m.baseType m.ns m.id m.payload (by cases m <;> exact nofun)

theorem dispatch_msg_mp (m : Msg) : dispatch (m.packet false) = .ok m.expected :=
  dispatch_payload m (packet_type false m) rfl

theorem receiveMP_msgs {ser : J → Bytes} {deser : Bytes → Except Err J} (ms : List Msg)
    (hser : ∀ m ∈ ms, deser (ser (toDict (m.packet false))) = .ok (toDict (m.packet false))) :
    receiveMP deser (sendAllMP ser (ms.map (Msg.packet false))) = .ok (ms.map (Msg.packet false)) := by
  induction ms with
  | nil => rfl
  | cons m ms ih =>
    have h1 := hser m (by simp)
    have h2 := ih (fun q hq => hser q (by simp [hq]))
    simp only [sendAllMP] at h2
    simp only [sendAllMP, List.map_cons, List.flatMap_cons, sendMP, List.cons_append,
      List.nil_append, receiveMP, h1, bind, Except.bind, ofDict_toDict_msg, h2, pure, Except.pure]

theorem deliverMP_msgs {ser : J → Bytes} {deser : Bytes → Except Err J} (ms : List Msg)
    (hser : ∀ m ∈ ms, deser (ser (toDict (m.packet false))) = .ok (toDict (m.packet false))) :
    deliverMP deser (sendAllMP ser (ms.map (Msg.packet false))) = .ok (ms.map Msg.expected) := by
  simp only [deliverMP, receiveMP_msgs ms hser, bind, Except.bind,
    mapM_map_ok ms _ dispatch Msg.expected fun m _ => dispatch_msg_mp m]

theorem deliverMP_msg {ser : J → Bytes} {deser : Bytes → Except Err J} (m : Msg)
    (hser : deser (ser (toDict (m.packet false))) = .ok (toDict (m.packet false))) :
    deliverMP deser (sendMP ser (m.packet false)) = .ok [m.expected] := by
  simpa [sendAllMP] using deliverMP_msgs (ser := ser) (deser := deser) [m] (by simpa using hser)

end Args
end Sio
