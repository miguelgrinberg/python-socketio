/-
  C01 — `decon` against the statement-level functions: it appends `binLeaves` to the accumulator,
  leaves no byte string behind, leaves a tree without byte strings alone, numbers its placeholders
  `acc.length, acc.length + 1, …` in document order; and `recon` undoes it, for any accumulator and any
  continuation of the attachment list.
-/
import Sio.Lemmas.CodecDefs
namespace Sio

/- the defining equations of the structural functions over `J`, for `simp` throughout this file -/
attribute [local simp] decon deconL deconO binLeaves binLeavesL binLeavesO NoBin NoBinL NoBinO
  J.isBinary J.isBinaryL J.isBinaryO

mutual
  theorem decon_snd (j : J) (acc : List Bytes) : (decon j acc).2 = acc ++ binLeaves j := by
    cases j with
    | arr xs => simp [deconL_snd xs acc]
    | obj kvs => simp [deconO_snd kvs acc]
    | _ => simp
  theorem deconL_snd (xs : List J) (acc : List Bytes) : (deconL xs acc).2 = acc ++ binLeavesL xs := by
    cases xs with
    | nil => simp
    | cons x xs => simp [decon_snd x acc, deconL_snd xs]
  theorem deconO_snd (kvs : List (Str × J)) (acc : List Bytes) :
      (deconO kvs acc).2 = acc ++ binLeavesO kvs := by
    match kvs with
    | [] => simp
    | (k, x) :: xs => simp [decon_snd x acc, deconO_snd xs]
end

mutual
  theorem noBin_decon (j : J) (acc : List Bytes) : NoBin (decon j acc).1 = true := by
    cases j with
    | bin b => rfl
    | arr xs => simp [noBinL_deconL xs acc]
    | obj kvs => simp [noBinO_deconO kvs acc]
    | _ => simp
  theorem noBinL_deconL (xs : List J) (acc : List Bytes) : NoBinL (deconL xs acc).1 = true := by
    cases xs with
    | nil => simp
    | cons x xs => simp [noBin_decon x acc, noBinL_deconL xs]
  theorem noBinO_deconO (kvs : List (Str × J)) (acc : List Bytes) :
      NoBinO (deconO kvs acc).1 = true := by
    match kvs with
    | [] => simp
    | (k, x) :: xs => simp [noBin_decon x acc, noBinO_deconO xs]
end

mutual
  theorem isBinary_eq_not_noBin (j : J) : j.isBinary = !NoBin j := by
    cases j with
    | arr xs => simp [isBinaryL_eq xs]
    | obj kvs => simp [isBinaryO_eq kvs]
    | _ => simp
  theorem isBinaryL_eq (xs : List J) : J.isBinaryL xs = !NoBinL xs := by
    cases xs with
    | nil => simp
    | cons x xs => simp [isBinary_eq_not_noBin x, isBinaryL_eq xs, Bool.not_and]
  theorem isBinaryO_eq (kvs : List (Str × J)) : J.isBinaryO kvs = !NoBinO kvs := by
    match kvs with
    | [] => simp
    | (k, x) :: xs => simp [isBinary_eq_not_noBin x, isBinaryO_eq xs, Bool.not_and]
end

mutual
  theorem noBin_iff_leaves (j : J) : NoBin j = true ↔ binLeaves j = [] := by
    cases j with
    | arr xs => simp [noBinL_iff_leaves xs]
    | obj kvs => simp [noBinO_iff_leaves kvs]
    | _ => simp
  theorem noBinL_iff_leaves (xs : List J) : NoBinL xs = true ↔ binLeavesL xs = [] := by
    cases xs with
    | nil => simp
    | cons x xs => simp [noBin_iff_leaves x, noBinL_iff_leaves xs]
  theorem noBinO_iff_leaves (kvs : List (Str × J)) : NoBinO kvs = true ↔ binLeavesO kvs = [] := by
    match kvs with
    | [] => simp
    | (k, x) :: xs => simp [noBin_iff_leaves x, noBinO_iff_leaves xs]
end

theorem isBinary_iff_leaves (j : J) : j.isBinary = true ↔ binLeaves j ≠ [] := by
  simp [isBinary_eq_not_noBin, ← noBin_iff_leaves]

theorem isBinary_false_iff_leaves (j : J) : j.isBinary = false ↔ binLeaves j = [] := by
  simp [isBinary_eq_not_noBin, noBin_iff_leaves]

mutual
  theorem decon_noBin (j : J) (acc : List Bytes) (h : NoBin j = true) : (decon j acc).1 = j := by
    cases j with
    | bin b => simp at h
    | arr xs => simp [deconL_noBin xs acc (by simpa using h)]
    | obj kvs => simp [deconO_noBin kvs acc (by simpa using h)]
    | _ => simp
  theorem deconL_noBin (xs : List J) (acc : List Bytes) (h : NoBinL xs = true) :
      (deconL xs acc).1 = xs := by
    cases xs with
    | nil => simp
    | cons x xs =>
      simp at h
      simp [decon_noBin x acc h.1, deconL_noBin xs _ h.2]
  theorem deconO_noBin (kvs : List (Str × J)) (acc : List Bytes) (h : NoBinO kvs = true) :
      (deconO kvs acc).1 = kvs := by
    match kvs with
    | [] => simp
    | (k, x) :: xs =>
      simp at h
      simp [decon_noBin x acc h.1, deconO_noBin xs _ h.2]
end

/-- `decon` keeps the keys of a dictionary, so the reserved key does not appear by it -/
theorem lookup_reserved_deconO (kvs : List (Str × J)) (acc : List Bytes)
    (h : NoReservedKeyO kvs = true) : lookup reservedKey (deconO kvs acc).1 = none := by
  induction kvs generalizing acc with
  | nil => rfl
  | cons kv xs ih =>
    obtain ⟨k, x⟩ := kv
    simp [NoReservedKeyO] at h
    simp [lookup, h.1.1, ih _ h.2]

theorem asPlaceholder_placeholder (n : Nat) :
    asPlaceholder [("_placeholder".toList, .bool true), ("num".toList, .int (n : Int))] = some n := by
  simp [asPlaceholder, reservedKey_eq]

theorem asPlaceholder_none_of_lookup (kvs : List (Str × J)) (h : lookup reservedKey kvs = none) :
    asPlaceholder kvs = none := by
  unfold asPlaceholder
  split
  · rename_i k₁ k₂ n
    simp only [lookup] at h
    split at h
    · simp at h
    · simp [*]
  · rfl

theorem recon_placeholder (atts : List J) (n : Nat) :
    recon atts (placeholder n) = pyIndex atts (.int n) := by
  simp [placeholder, recon, lookup, J.truthy]

theorem pyIndex_append (acc : List Bytes) (b : Bytes) (rest : List Bytes) :
    pyIndex ((acc ++ [b] ++ rest).map J.bin) (.int acc.length) = .ok (.bin b) := by
  simp [pyIndex]

mutual
  /-- Generalised to an arbitrary accumulator prefix and an arbitrary continuation of the
      attachment list: the placeholders made by `decon j acc` index into `acc ++ leaves j`. -/
  theorem recon_decon_gen (j : J) (acc rest : List Bytes) (h : NoReservedKey j = true) :
      recon (((decon j acc).2 ++ rest).map J.bin) (decon j acc).1 = .ok j := by
    cases j with
    | bin b => simp only [decon, recon_placeholder]; exact pyIndex_append acc b rest
    | arr xs =>
      have := reconL_deconL_gen xs acc rest h
      simp only [decon, recon, this]; rfl
    | obj kvs =>
      have h1 := reconO_deconO_gen kvs acc rest h
      have h2 := reservedKey_eq ▸ lookup_reserved_deconO kvs acc h
      simp only [decon, recon, h1, h2]; rfl
    | _ => simp [recon]
  theorem reconL_deconL_gen (xs : List J) (acc rest : List Bytes) (h : NoReservedKeyL xs = true) :
      reconL (((deconL xs acc).2 ++ rest).map J.bin) (deconL xs acc).1 = .ok xs := by
    cases xs with
    | nil => simp [reconL]
    | cons x xs =>
      simp only [NoReservedKeyL, Bool.and_eq_true] at h
      have hx := recon_decon_gen x acc (binLeavesL xs ++ rest) h.1
      have hxs := reconL_deconL_gen xs (decon x acc).2 rest h.2
      simp only [deconL_snd, decon_snd, List.append_assoc] at hx hxs
      simp only [deconL, reconL, deconL_snd, decon_snd, List.append_assoc, hx, hxs]; rfl
  theorem reconO_deconO_gen (kvs : List (Str × J)) (acc rest : List Bytes)
      (h : NoReservedKeyO kvs = true) :
      reconO (((deconO kvs acc).2 ++ rest).map J.bin) (deconO kvs acc).1 = .ok kvs := by
    match kvs with
    | [] => simp [reconO]
    | (k, x) :: xs =>
      simp only [NoReservedKeyO, Bool.and_eq_true] at h
      have hx := recon_decon_gen x acc (binLeavesO xs ++ rest) h.1.2
      have hxs := reconO_deconO_gen xs (decon x acc).2 rest h.2
      simp only [deconO_snd, decon_snd, List.append_assoc] at hx hxs
      simp only [deconO, reconO, deconO_snd, decon_snd, List.append_assoc, hx, hxs]; rfl
end

mutual
  theorem phNums_decon (j : J) (acc : List Bytes) (h : NoReservedKey j = true) :
      phNums (decon j acc).1 = List.range' acc.length (binLeaves j).length := by
    cases j with
    | bin b => simp only [decon, placeholder, phNums, asPlaceholder_placeholder]; simp
    | arr xs => simp [phNums, phNumsL_deconL xs acc h]
    | obj kvs =>
      simp [phNums, asPlaceholder_none_of_lookup _ (lookup_reserved_deconO kvs acc h),
        phNumsO_deconO kvs acc h]
    | _ => simp [phNums]
  theorem phNumsL_deconL (xs : List J) (acc : List Bytes) (h : NoReservedKeyL xs = true) :
      phNumsL (deconL xs acc).1 = List.range' acc.length (binLeavesL xs).length := by
    cases xs with
    | nil => simp [phNumsL]
    | cons x xs =>
      simp only [NoReservedKeyL, Bool.and_eq_true] at h
      simp [phNumsL, phNums_decon x acc h.1, phNumsL_deconL xs _ h.2, decon_snd,
        List.range'_append_1]
  theorem phNumsO_deconO (kvs : List (Str × J)) (acc : List Bytes) (h : NoReservedKeyO kvs = true) :
      phNumsO (deconO kvs acc).1 = List.range' acc.length (binLeavesO kvs).length := by
    match kvs with
    | [] => simp [phNumsO]
    | (k, x) :: xs =>
      simp only [NoReservedKeyO, Bool.and_eq_true] at h
      simp [phNumsO, phNums_decon x acc h.1.2, phNumsO_deconO xs _ h.2, decon_snd,
        List.range'_append_1]
end

theorem topOK_decon (j : J) (acc : List Bytes) (h : TopOK j = true) : TopOK (decon j acc).1 = true := by
  cases j <;> simp_all [TopOK, placeholder]

end Sio
