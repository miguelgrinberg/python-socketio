/-
  The back-off loop of Sio.Model.Reconnect and the layout of one effort.  Every fact about `loop`
  is proved along its own case analysis (`fun_induction`): fuel spent, the three exits (abort seen,
  attempt succeeded, limit reached) and the iteration that goes round again.
-/
import Sio.Model.Reconnect
namespace Sio.Reconnect

section loop
variable (cfg : Cfg) (o : Nat → Bool) (r : Nat → Q) (a : Option Nat)

theorem capped_eq_min (cur : Q) : capped cfg cur = min cur cfg.delayMax := by
  unfold capped
  rw [Rat.min_def]
  by_cases h : cur ≤ cfg.delayMax
  · rw [if_neg (Rat.not_lt.2 h), if_pos h]
  · rw [if_pos (Rat.not_le.1 h), if_neg h]

theorem loop_waits (fuel k : Nat) (cur : Q) (i : Nat) (w : Q)
    (h : (loop cfg o r a fuel k cur).waits[i]? = some w) : w = waitOf cfg (cur * 2 ^ i) (r (k + i)) := by
  fun_induction loop cfg o r a fuel k cur generalizing i with
  | case1 => cases h
  | case5 _ k cur _ _ _ _ _ ih =>
    cases i with
    | zero => rw [Rat.pow_zero, Rat.mul_one]; exact (Option.some.inj h).symm
    | succ j => rw [ih j h, Rat.pow_succ, Rat.mul_assoc, Rat.mul_comm 2, Nat.add_right_comm, Nat.add_assoc]
  | _ =>
    cases i with
    | zero => rw [Rat.pow_zero, Rat.mul_one]; exact (Option.some.inj h).symm
    | succ j => cases h

theorem loop_attempts_ge (fuel : Nat) : ∀ (k : Nat) (cur : Q),
    k ≤ (loop cfg o r a fuel k cur).attempts := by
  intro k cur
  fun_induction loop cfg o r a fuel k cur with
  | case5 _ _ _ _ _ _ _ _ ih => exact Nat.le_of_succ_le ih
  | _ => simp

theorem loop_attempts_le (fuel k : Nat) (cur : Q) (hk : k < cfg.attempts) :
    (loop cfg o r a fuel k cur).attempts ≤ cfg.attempts := by
  fun_induction loop cfg o r a fuel k cur with
  | case5 _ _ _ _ _ _ hg _ ih => exact ih (by omega)
  | _ => simp only; omega

/-- the loop is entered with `attempt_count = k`: those `k` attempts had their waits earlier -/
theorem loop_waits_length (fuel k : Nat) (cur : Q) :
    (loop cfg o r a fuel k cur).waits.length + k =
      (loop cfg o r a fuel k cur).attempts +
        (if (loop cfg o r a fuel k cur).final = .aborted then 1 else 0) := by
  fun_induction loop cfg o r a fuel k cur with
  | case5 _ _ _ _ _ _ _ res ih => simp only [res, List.length_cons]; omega
  | _ => simp <;> omega

/-- no limit, nothing succeeds, nobody aborts: the loop is still running after any number of
    iterations, having made one attempt per iteration -/
theorem loop_unbounded (h0 : cfg.attempts = 0) (ho : ∀ k, o k = false) (fuel k : Nat) (cur : Q) :
      (loop cfg o r none fuel k cur).attempts = k + fuel ∧
      (loop cfg o r none fuel k cur).final = .running ∧
      (loop cfg o r none fuel k cur).waits.length = fuel := by
  fun_induction loop cfg o r none fuel k cur with
  | case1 => simp
  | case5 _ _ _ _ _ _ _ res ih =>
    simp only [res, List.length_cons]
    exact ⟨by omega, ih.2.1, by omega⟩
  | case2 _ _ _ _ h => cases h
  | case3 _ k _ _ _ h => simp [ho] at h
  | case4 _ _ _ _ _ _ h => exact absurd h0 h.1

theorem loop_first_success (fuel k : Nat) (cur : Q) (j : Nat)
    (hkj : k ≤ j) (hf : j - k < fuel)
    (hfail : ∀ i, k ≤ i → i < j → o i = false) (hsucc : o j = true)
    (hab : ∀ i, k ≤ i → i ≤ j → a ≠ some i)
    (hN : cfg.attempts = 0 ∨ j < cfg.attempts) :
      (loop cfg o r a fuel k cur).attempts = j + 1 ∧
      (loop cfg o r a fuel k cur).final = .connected ∧
      (loop cfg o r a fuel k cur).waits.length = j - k + 1 := by
  fun_induction loop cfg o r a fuel k cur with
  | case1 => omega
  | case2 _ k _ _ h => exact absurd h (hab k (Nat.le_refl k) hkj)
  | case3 _ k _ _ _ hs =>
    have : k = j := Nat.le_antisymm hkj (Nat.not_lt.1 fun h => by simp [hfail k (Nat.le_refl k) h] at hs)
    subst this; simp
  | case4 _ k _ _ _ ho hg =>
    have : k = j := by omega
    subst this; exact absurd hsucc ho
  | case5 _ k _ _ _ ho _ res ih =>
    have : k ≠ j := fun e => ho (e ▸ hsucc)
    have := ih (by omega) (by omega) (fun i h1 h2 => hfail i (by omega) h2)
      (fun i h1 h2 => hab i (by omega) h2)
    simp only [res, List.length_cons]
    exact ⟨this.1, this.2.1, by omega⟩

theorem loop_connected_sound (fuel k : Nat) (cur : Q)
    (h : (loop cfg o r a fuel k cur).final = .connected) :
      k < (loop cfg o r a fuel k cur).attempts ∧
      o ((loop cfg o r a fuel k cur).attempts - 1) = true ∧
      ∀ i, k ≤ i → i + 1 < (loop cfg o r a fuel k cur).attempts → o i = false := by
  fun_induction loop cfg o r a fuel k cur with
  | case3 _ k _ _ _ hs =>
    -- attempt `k` is the only one of this run: no index lies between `k` and it
    refine ⟨Nat.lt_succ_self k, hs, fun i hki hi => ?_⟩
    exact absurd hki (Nat.not_le.2 (Nat.lt_of_succ_lt_succ hi))
  | case5 _ k _ _ _ ho _ res ih =>
    obtain ⟨h1, h2, h3⟩ := ih h
    refine ⟨Nat.lt_of_succ_lt h1, h2, fun i hki hi => ?_⟩
    by_cases hik : i = k
    · subst hik; simpa using ho
    · exact h3 i (by omega) hi
  | _ => cases h

/-- the abort is pending at `j`, this iteration is not `j`, so `j` lies ahead -/
theorem lt_of_not_abort {k j : Nat} (hkj : k ≤ j) (hk : ¬ some j = some k) : k < j :=
  Nat.lt_of_le_of_ne hkj fun e => hk (e ▸ rfl)

theorem loop_abort (fuel k : Nat) (cur : Q) (j : Nat)
    (ha : a = some j) (hkj : k ≤ j) (hf : j - k < fuel)
    (hfail : ∀ i, k ≤ i → i < j → o i = false)
    (hN : cfg.attempts = 0 ∨ j < cfg.attempts) :
      (loop cfg o r a fuel k cur).attempts = j ∧
      (loop cfg o r a fuel k cur).final = .aborted ∧
      (loop cfg o r a fuel k cur).waits.length = j - k + 1 := by
  subst ha
  fun_induction loop cfg o r (some j) fuel k cur with
  | case1 => omega
  | case2 _ k _ _ h => cases h; simp
  | case3 _ k _ _ hk hs =>
    have := lt_of_not_abort hkj hk
    simp [hfail k (Nat.le_refl k) this] at hs
  | case4 _ k _ _ hk _ hg =>
    have := lt_of_not_abort hkj hk
    omega
  | case5 _ k _ _ hk _ _ res ih =>
    have := lt_of_not_abort hkj hk
    have := ih (by omega) (by omega) (fun i h1 h2 => hfail i (by omega) h2)
    simp only [res, List.length_cons]
    exact ⟨this.1, this.2.1, by omega⟩

theorem loop_abort_le (fuel k : Nat) (cur : Q) (j : Nat) (ha : a = some j) (hkj : k ≤ j) :
    (loop cfg o r a fuel k cur).attempts ≤ j := by
  subst ha
  fun_induction loop cfg o r (some j) fuel k cur with
  | case1 => exact hkj
  | case2 => exact hkj
  | case5 _ k _ _ hk _ _ _ ih => exact ih (lt_of_not_abort hkj hk)
  | case3 _ k _ _ hk | case4 _ k _ _ hk => exact lt_of_not_abort hkj hk

theorem loop_final_sound (fuel k : Nat) (cur : Q) :
    ((loop cfg o r a fuel k cur).final = .aborted → a = some (loop cfg o r a fuel k cur).attempts) ∧
    ((loop cfg o r a fuel k cur).final = .gaveUp →
      cfg.attempts ≠ 0 ∧ cfg.attempts ≤ (loop cfg o r a fuel k cur).attempts) := by
  fun_induction loop cfg o r a fuel k cur with
  | case2 _ _ _ _ h => exact ⟨fun _ => h, nofun⟩
  | case4 _ _ _ _ _ _ h => exact ⟨nofun, fun _ => h⟩
  | case5 _ _ _ _ _ _ _ _ ih => exact ih
  | _ => exact ⟨nofun, nofun⟩

end loop

theorem body_attempts {P : Type} (cfg : Cfg) (s : Stored P) (outs : Nat → Outcome) (n : Nat)
    (ws : List Q) : ∀ (k : Nat) (p : Stored P), Ev.attempt p ∈ body cfg s outs n k ws → p = s := by
  induction ws with
  | nil => intro k p h; simp [body] at h
  | cons w ws ih =>
    intro k p h
    unfold body at h
    rw [List.mem_append] at h
    cases h with
    | inr h => exact ih (k + 1) p h
    | inl h =>
      simp only [List.mem_cons] at h
      cases h with
      | inl h => cases h
      | inr h =>
        split at h
        · simp only [List.mem_cons] at h
          cases h with
          | inl h => injection h
          | inr h =>
            cases ho : outs k <;> simp [attemptEvents, ho] at h
        · simp at h

theorem final_no_attempt {P : Type} (nss : List Ns) (f : Final) (p : Stored P) :
    Ev.attempt p ∉ (finalEvents nss f : List (Ev P)) := by
  cases f <;> simp [finalEvents]

/-- number of `attempt` events in the layout = number of attempts counted by the policy, as long
    as every attempt has its wait -/
def countAttempts {P : Type} : List (Ev P) → Nat
  | [] => 0
  | .attempt _ :: es => countAttempts es + 1
  | _ :: es => countAttempts es

theorem countAttempts_append {P : Type} (xs ys : List (Ev P)) :
    countAttempts (xs ++ ys) = countAttempts xs + countAttempts ys := by
  induction xs with
  | nil => simp [countAttempts]
  | cons x xs ih => cases x <;> simp [countAttempts, ih]; omega

theorem countAttempts_handlers {P α : Type} (h : α → HName) (n : α → Ns) (l : List α) :
    countAttempts (l.map fun x => (Ev.handler (h x) (n x) : Ev P)) = 0 := by
  induction l with
  | nil => rfl
  | cons x xs ih => simpa [countAttempts] using ih

theorem countAttempts_attemptEvents {P : Type} (cfg : Cfg) (nss : List Ns) (o : Outcome) :
    countAttempts (attemptEvents cfg nss o : List (Ev P)) = 0 := by
  cases o with
  | served acc =>
    simp only [attemptEvents, countAttempts_append]
    rw [countAttempts_handlers (fun p : Nat × Ns => if accepted acc p.1 then .connect else .connectError)
      (fun p => p.2)]
    split <;> rfl
  | transport => exact countAttempts_handlers (fun _ => .connectError) id nss
  | lost => rfl

theorem countAttempts_final {P : Type} (nss : List Ns) (f : Final) :
    countAttempts (finalEvents nss f : List (Ev P)) = 0 := by
  have hm := countAttempts_handlers (P := P) (fun _ => .disconnectFinal) id nss
  cases f <;> simp [finalEvents, countAttempts_append, countAttempts] <;> exact hm

/-- the wait at index `k + i` is followed by an attempt iff `k + i < n` -/
theorem countAttempts_body {P : Type} (cfg : Cfg) (s : Stored P) (outs : Nat → Outcome) (n : Nat)
    (ws : List Q) (k : Nat) : countAttempts (body cfg s outs n k ws) = min (n - k) ws.length := by
  induction ws generalizing k with
  | nil => simp [body, countAttempts]
  | cons w ws ih =>
    rw [body, countAttempts_append, ih]
    by_cases hk : k < n <;>
      simp only [hk, if_true, if_false, countAttempts, countAttempts_attemptEvents, List.length_cons] <;>
      omega

theorem mem_enum {α : Type} (l : List α) (b j : Nat) (m : α) (h : l[j]? = some m) :
    (b + j, m) ∈ enum b l := by
  induction l generalizing b j with
  | nil => cases h
  | cons x xs ih =>
    cases j with
    | zero => cases h; exact List.mem_cons_self
    | succ j =>
      rw [← Nat.add_assoc, Nat.add_right_comm]
      exact List.mem_cons_of_mem _ (ih (b + 1) j h)

/-- The case analysis of `step` on a loss, once: the connection was up with `s` stored; `hs` are
    the `disconnect` handler invocations (no attempt among them); then either an effort runs or
    the client just goes down. -/
theorem step_lose {P : Type} {c c' : Cli P} {cause : Cause} {sc : Script} {evs : List (Ev P)}
    (h : step c (.lose cause sc) = some (c', evs)) :
    ∃ s hs, c.connected = true ∧ c.stored = some s ∧ (∀ p, Ev.attempt p ∉ hs) ∧
      ((startsEffort c.cfg (eioStateDuring cause) c.task = true ∧
          c'.cfg = c.cfg ∧ c'.stored = c.stored ∧
          c'.task = ((effort c.cfg s sc.outs sc.rands sc.abortAt sc.fuel).1.final != .connected) ∧
          evs = hs ++ [.notified (eioStateDuring cause) true] ++
            (effort c.cfg s sc.outs sc.rands sc.abortAt sc.fuel).2) ∨
       (c'.cfg = c.cfg ∧ c'.stored = c.stored ∧ c'.task = c.task ∧
          evs = hs ++ [.notified (eioStateDuring cause) false])) := by
  simp only [step] at h
  split at h
  · rename_i s hc hs
    refine ⟨s, c.live.flatMap fun n => .handler (.disconnect (reasonOf cause)) n ::
      (if willReconnect c.cfg (eioStateDuring cause) then [] else [.handler .disconnectFinal n]),
      hc, hs, fun p hm => ?_, ?_⟩
    · obtain ⟨n, _, hn⟩ := List.mem_flatMap.1 hm
      by_cases hw : willReconnect c.cfg (eioStateDuring cause) = true <;> simp [hw] at hn
    · split at h <;> cases h
      · exact .inl ⟨‹_›, rfl, rfl, rfl, rfl⟩
      · exact .inr ⟨rfl, rfl, rfl, rfl⟩
  · cases h

theorem step_cfg {P : Type} (c c' : Cli P) (i : Input P) (evs : List (Ev P))
    (h : step c i = some (c', evs)) : c'.cfg = c.cfg := by
  cases i with
  | lose cause sc =>
    obtain ⟨_, _, _, _, _, ⟨_, h, _⟩ | ⟨h, _⟩⟩ := step_lose h <;> exact h
  | _ =>
    simp only [step] at h
    split at h <;> cases h
    rfl

theorem run_cons {P : Type} {c0 c : Cli P} {i : Input P} {is : List (Input P)} {evs : List (Ev P)}
    (h : run c0 (i :: is) = some (c, evs)) :
    ∃ c1 e1 e2, step c0 i = some (c1, e1) ∧ run c1 is = some (c, e2) ∧ evs = e1 ++ e2 := by
  unfold run at h
  split at h
  · cases h
  · split at h <;> cases h
    exact ⟨_, _, _, ‹_›, ‹_›, rfl⟩

theorem run_cfg {P : Type} (is : List (Input P)) : ∀ (c0 c : Cli P) (evs : List (Ev P)),
    run c0 is = some (c, evs) → c.cfg = c0.cfg := by
  induction is with
  | nil => intro c0 c evs h; cases h; rfl
  | cons i is ih =>
    intro c0 c evs h
    obtain ⟨c1, e1, e2, hst, hr, _⟩ := run_cons h
    rw [ih c1 c e2 hr, step_cfg c0 c1 i e1 hst]

end Sio.Reconnect
