/-
  K7 — how every piece of the client changes the callback table (`CbStep`), token counting, id invariant.
  What never survives the transport (`TInv`); both invariants along arbitrary histories (`CbRun`).
-/
import Sio.Lemmas.Client
namespace Sio.Client

def cbOf : Out → Option (Cb × List J)
  | .callback cb args => some (cb, args)
  | _ => none

/-- the callback invocations of a trace -/
def cbOuts (os : List Out) : List (Cb × List J) := os.filterMap cbOf

@[simp] theorem cbOuts_nil : cbOuts [] = [] := rfl
@[simp] theorem cbOuts_append (a b : List Out) : cbOuts (a ++ b) = cbOuts a ++ cbOuts b := by
  simp [cbOuts, List.filterMap_append]
theorem cbOuts_cons (o : Out) (os : List Out) : cbOuts (o :: os) = (cbOf o).toList ++ cbOuts os := by
  simp only [cbOuts, List.filterMap_cons]
  cases cbOf o <;> simp

theorem cbOuts_of_quiet {o : List Out} (h : o.all Out.quiet = true) : cbOuts o = [] :=
  List.filterMap_eq_nil_iff.mpr fun x hx => by
    have hq := List.all_eq_true.mp h x hx
    cases x with
    | callback => cases hq
    | _ => rfl

/-- How one piece of the client changes the callback table and which callbacks it invokes. -/
inductive CbStep (c c' : Cli) (o : List Out) : Prop where
  /-- nothing happens to the table, no callback runs -/
  | keep (h1 : c'.cbs = c.cbs) (h2 : c'.ctr = c.ctr) (h3 : cbOuts o = [])
  /-- an ACK bearing the namespace and id of the outstanding entry `e`: the entry is removed and
      its callback runs at most once, with the acknowledged arguments -/
  | ack (n : Ns) (i : Nat) (e : Ns × Nat × Cb) (data : Option J)
      (hf : c.cbs.find? (isKey n i) = some e)
      (h1 : c'.cbs = c.cbs.filter (fun x => !isKey n i x)) (h2 : c'.ctr = c.ctr)
      (h3 : cbOuts o = match data with | some (.arr args) => [(e.2.2, args)] | _ => [])
  /-- the transport ended: the table and the counters are dropped together -/
  | reset (h1 : c'.cbs = []) (h2 : c'.ctr = []) (h3 : cbOuts o = [])

theorem CbStep.refl (c : Cli) : CbStep c c [] := .keep rfl rfl rfl

theorem CbStep.congr {c0 c c' : Cli} {o o' : List Out} (h : CbStep c0 c' o)
    (ho : cbOuts o' = cbOuts o := by rfl) (h1 : c0.cbs = c.cbs := by rfl) (h2 : c0.ctr = c.ctr := by rfl) :
    CbStep c c' o' := by
  cases h with
  | keep k1 k2 k3 => exact .keep (k1.trans h1) (k2.trans h2) (ho.trans k3)
  | ack n i e data hf k1 k2 k3 => exact .ack n i e data (h1 ▸ hf) (h1 ▸ k1) (k2.trans h2) (ho.trans k3)
  | reset k1 k2 k3 => exact .reset k1 k2 (ho.trans k3)

theorem cbStep_onEioDisconnect (cfg : Cfg) (c : Cli) (r : Str) :
    CbStep c (onEioDisconnect cfg c r).1 (onEioDisconnect cfg c r).2 :=
  have h := onEioDisconnect_reset cfg c r
  .reset h.cbs h.ctr (cbOuts_of_quiet h.out)

theorem cbOuts_ackOuts (cb : Cb) (data : Option J) :
    cbOuts (ackOuts cb data) = match data with | some (.arr args) => [(cb, args)] | _ => [] := by
  unfold ackOuts
  split
  · split <;> simp [cbOuts_cons, cbOf]
  · simp [cbOuts_cons, cbOf]

theorem cbStep_handleAck (c : Cli) (ns : Option Ns) (id : Option Nat) (data : Option J) :
    CbStep c (handleAck c ns id data).1 (handleAck c ns id data).2 := by
  unfold handleAck
  split
  · exact .refl c
  · rename_i i
    split
    · exact .refl c
    · rename_i e hf
      exact .ack (nsOr ns) i e data hf rfl rfl (cbOuts_ackOuts _ _)

theorem Did.cbStep {msg : Prop} {c c' : Cli} {o : List Out} (h : Did msg c c' o) : CbStep c c' o := by
  cases h with
  | quiet h1 h2 _ _ _ _ h => exact .keep h1 h2 (cbOuts_of_quiet h)
  | ack b ns id data _ h1 h2 => rw [h1, h2]; exact (cbStep_handleAck ..).congr
  | ended _ h _ => exact .reset h.cbs h.ctr (cbOuts_of_quiet h.out)

def tokCnt (t : Nat) (l : List (Ns × Nat × Cb)) : Nat := (l.map (fun e => e.2.2.tok)).count t
def outCnt (t : Nat) (os : List Out) : Nat := ((cbOuts os).map (fun e => e.1.tok)).count t

@[simp] theorem outCnt_nil (t : Nat) : outCnt t [] = 0 := rfl
@[simp] theorem outCnt_append (t : Nat) (a b : List Out) : outCnt t (a ++ b) = outCnt t a + outCnt t b := by
  simp [outCnt]
theorem outCnt_of_nil (t : Nat) (o : List Out) (h : cbOuts o = []) : outCnt t o = 0 := by
  simp [outCnt, h]

theorem count_filter_find {α : Type} (f : α → Nat) (p : α → Bool) (t : Nat) (l : List α) (e : α)
    (hf : l.find? p = some e) :
    ((l.filter (fun x => !p x)).map f).count t + (if f e = t then 1 else 0) ≤ (l.map f).count t := by
  rw [List.count_eq_countP, List.count_eq_countP, List.countP_map, List.countP_map,
    List.countP_eq_countP_filter_add l _ p, Nat.add_comm]
  refine Nat.add_le_add_right ?_ _
  split
  · exact List.countP_pos_iff.mpr
      ⟨e, List.mem_filter.mpr ⟨List.mem_of_find?_eq_some hf, List.find?_some hf⟩, by simpa⟩
  · exact Nat.zero_le _

theorem cbStep_count {c c' : Cli} {o : List Out} (h : CbStep c c' o) (t : Nat) :
    outCnt t o + tokCnt t c'.cbs ≤ tokCnt t c.cbs := by
  cases h with
  | keep h1 h2 h3 => rw [outCnt_of_nil t o h3, h1]; omega
  | reset h1 h2 h3 => rw [outCnt_of_nil t o h3, h1]; simp [tokCnt]
  | ack n i e data hf h1 h2 h3 =>
    have hc := count_filter_find (fun e : Ns × Nat × Cb => e.2.2.tok) (isKey n i) t c.cbs e hf
    have ho : outCnt t o ≤ (if e.2.2.tok = t then 1 else 0) := by
      unfold outCnt
      rw [h3]
      split <;> simp [List.count_singleton]
    unfold tokCnt
    rw [h1]
    omega

/-- ids handed out are never above the counter, and no (namespace, id) is stored twice -/
structure IdInv (c : Cli) : Prop where
  le : ∀ e ∈ c.cbs, e.2.1 ≤ ctrOf c.ctr e.1
  nodup : (c.cbs.map (fun e => (e.1, e.2.1))).Nodup

theorem IdInv_init : IdInv init := ⟨nofun, .nil⟩

theorem cbStep_idInv {c c' : Cli} {o : List Out} (h : CbStep c c' o) (hi : IdInv c) : IdInv c' := by
  cases h with
  | keep h1 h2 h3 => exact ⟨(by rw [h1, h2]; exact hi.le), (by rw [h1]; exact hi.nodup)⟩
  | reset h1 h2 h3 => exact ⟨(by rw [h1]; nofun), (by rw [h1]; exact .nil)⟩
  | ack n i e data hf h1 h2 h3 =>
    refine ⟨?_, ?_⟩
    · rw [h1, h2]
      exact fun x hx => hi.le x (List.mem_filter.mp hx).1
    · rw [h1]
      exact List.Sublist.nodup (List.Sublist.map _ List.filter_sublist) hi.nodup

/-- no session id and no half-received binary packet without a live transport -/
def TInv (c : Cli) : Prop := c.eio = .disconnected → c.binbuf = none ∧ c.sid = none

theorem TInv_init : TInv init := fun _ => ⟨rfl, rfl⟩

theorem TInv.of_fields {c c' : Cli} (h : TInv c) (h1 : c'.eio = c.eio := by rfl)
    (h2 : c'.binbuf = c.binbuf := by rfl) (h3 : c'.sid = c.sid := by rfl) : TInv c' := by
  intro he; rw [h2, h3]; exact h (h1 ▸ he)

theorem Did.tinv {msg : Prop} {c c' : Cli} {o : List Out} (h : Did msg c c' o) (ht : TInv c) : TInv c' := by
  cases h with
  | quiet _ _ he hs _ hb _ =>
    intro hd
    have hd' := he ▸ hd
    rw [hb hd', hs]; exact ht hd'
  | ack b ns id data up h1 _ => rw [h1, handleAck_state]; exact fun hd => nomatch up.symm.trans hd
  | ended _ h _ => exact fun _ => ⟨h.bin, h.sid⟩

/-- what a sequence of pieces does: callbacks that ran plus callbacks still stored never exceed
    what was stored before plus what the API call `ts` registered; the two invariants of arbitrary
    histories (ids, transport) are kept -/
structure CbRun (ts : List Nat) (c c' : Cli) (o : List Out) : Prop where
  count : ∀ t, outCnt t o + tokCnt t c'.cbs ≤ tokCnt t c.cbs + ts.count t
  inv : IdInv c → IdInv c'
  tinv : TInv c → TInv c'

theorem CbRun.of_did {msg : Prop} {c c' : Cli} {o : List Out} (h : Did msg c c' o) : CbRun [] c c' o :=
  ⟨(fun t => by have := cbStep_count h.cbStep t; simp; omega), cbStep_idInv h.cbStep, h.tinv⟩

theorem CbRun.trans {ts1 ts2 : List Nat} {c c1 c2 : Cli} {o1 o2 : List Out}
    (h1 : CbRun ts1 c c1 o1) (h2 : CbRun ts2 c1 c2 o2) : CbRun (ts1 ++ ts2) c c2 (o1 ++ o2) :=
  ⟨(fun t => by have := h1.count t; have := h2.count t; simp only [outCnt_append, List.count_append]; omega),
   fun hi => h2.inv (h1.inv hi), fun hi => h2.tinv (h1.tinv hi)⟩

theorem CbRun.refl (c : Cli) : CbRun [] c c [] := .of_did (msg := False) (.frame c rfl)

theorem CbRun.congr {ts : List Nat} {c c1 c' : Cli} {o o' : List Out} (h : CbRun ts c c1 o)
    (ho : cbOuts o' = cbOuts o := by rfl) (h1 : c'.cbs = c1.cbs := by rfl)
    (h2 : c'.ctr = c1.ctr := by rfl) (h3 : c'.eio = c1.eio := by rfl)
    (h4 : c'.binbuf = c1.binbuf := by rfl) (h5 : c'.sid = c1.sid := by rfl) : CbRun ts c c' o' :=
  ⟨(fun t => by have := h.count t; simpa [outCnt, ho, h1] using this),
   fun hi => ⟨h1 ▸ h2 ▸ (h.inv hi).le, h1 ▸ (h.inv hi).nodup⟩, fun hi => (h.tinv hi).of_fields h3 h4 h5⟩

theorem cbRun_deliverAll (cfg : Cfg) (es : List Ev) : ∀ c,
    CbRun [] c (deliverAll cfg c es).1 (deliverAll cfg c es).2 := by
  induction es with
  | nil => intro c; exact .refl c
  | cons e es ih => intro c; exact (CbRun.of_did (deliver_did cfg c e)).trans (ih _)

theorem ctrOf_setCtr (ctr : List (Ns × Nat)) (n m : Ns) (v : Nat) :
    ctrOf (setCtr ctr n v) m = if m = n then v else ctrOf ctr m := by
  unfold ctrOf setCtr
  by_cases h : m = n
  · subst h; simp
  · simp only [List.find?_cons, show ¬ n = m from fun hq => h hq.symm, decide_false, h, if_false,
      List.find?_filter]
    congr 2; funext x
    by_cases hx : x.1 = m <;> simp [hx, h]

theorem cbRun_genId (c : Cli) (n : Ns) (cb : Cb) : CbRun [cb.tok] c (genId c n cb).1 [] := by
  refine ⟨fun t => ?_, fun hi => ⟨?_, ?_⟩, fun h => h.of_fields⟩
  · simp [genId, tokCnt, List.count_cons, List.count_append]
  · intro e he
    simp only [genId, List.mem_append, List.mem_singleton] at he ⊢
    rw [ctrOf_setCtr]
    rcases he with he | he
    · have := hi.le e he
      split
      · rename_i hq; rw [hq] at this; omega
      · exact this
    · subst he; simp
  · simp only [genId, List.map_append, List.map_cons, List.map_nil]
    refine List.nodup_append.mpr ⟨hi.nodup, by simp, fun x hx y hy hq => ?_⟩
    -- a stored id equal to the new one would exceed the counter
    obtain ⟨e, he, rfl⟩ := List.mem_map.mp hx
    rw [List.mem_singleton.mp hy, Prod.mk.injEq] at hq
    have := hi.le e he
    rw [hq.1] at this
    omega

/-- **id_unique**: the id `_generate_ack_id` hands out is not the id of any callback outstanding on
    that namespace. -/
theorem genId_fresh {c : Cli} (hi : IdInv c) (n : Ns) (cb : Cb) :
    ∀ e ∈ c.cbs, e.1 = n → e.2.1 ≠ (genId c n cb).2 := by
  intro e he hn hq
  have := hi.le e he
  rw [hn] at this
  simp only [genId] at hq
  omega

/-- the callback tokens an input registers -/
def inToks : Input → List Nat
  | .emit _ _ _ (some cb) _ => [cb.tok]
  | .send _ _ (some cb) _ => [cb.tok]
  | .call _ _ _ tok _ => [tok]
  | _ => []

def histToks (is : List Input) : List Nat := is.flatMap inToks

theorem cbRun_emitCore (cfg : Cfg) (c : Cli) (ev : Str) (d : Data) (ns : Option Ns) (cb : Option Cb)
    (reacts : List Ev) :
    CbRun (match cb with | some k => [k.tok] | none => []) c
      (emitCore cfg c ev d ns cb reacts).1 (emitCore cfg c ev d ns cb reacts).2.1 := by
  have hg : CbRun (match cb with | some k => [k.tok] | none => []) c (c.registered (nsOr ns) cb) [] := by
    cases cb with
    | none => exact .refl c
    | some k => exact cbRun_genId c (nsOr ns) k
  refine emitCore_cases (P := fun r => CbRun _ c r.1 r.2.1) cfg c ev d ns cb reacts (fun _ => ?_)
    (fun _ _ _ => ?_) fun _ _ => hg
  · cases cb with
    | none => exact (CbRun.refl c).congr
    | some k => exact ⟨fun t => by simp [outCnt, cbOuts_cons, cbOf], id, id⟩
  · simpa using (hg.trans (cbRun_deliverAll cfg reacts _)).congr (o' := _ :: _) rfl

theorem cbRun_emit (cfg : Cfg) (c : Cli) (ev : Str) (d : Data) (ns : Option Ns) (cb : Option Cb)
    (reacts : List Ev) :
    CbRun (inToks (.emit ev d ns cb reacts)) c
      (emit cfg c ev d ns cb reacts).1 (emit cfg c ev d ns cb reacts).2 := by
  have h := cbRun_emitCore cfg c ev d ns cb reacts
  cases cb <;> exact h.congr (by rw [emit]; split <;> simp [cbOuts_cons, cbOf])

theorem cbRun_connectLoop (cfg : Cfg) (auth : J) (nss : List Ns) : ∀ (c : Cli) (rs : List (List Ev)),
    CbRun [] c (connectLoop cfg auth c nss rs).1 (connectLoop cfg auth c nss rs).2 := by
  induction nss with
  | nil => intro c rs; exact .refl c
  | cons n ns ih =>
    intro c rs
    simp only [connectLoop]
    split
    · exact ((cbRun_deliverAll cfg (rs.headD []) c).trans (ih _ rs.tail)).congr
    · exact .refl c

theorem cbRun_step (cfg : Cfg) (c : Cli) (i : Input) :
    CbRun (inToks i) c (step cfg c i).1 (step cfg c i).2 := by
  cases i with
  | connect nss auth wait oc reacts =>
    have hoa : cbOuts (if auth.callable = true then [Out.authCall] else []) = [] := by
      split <;> rfl
    -- the transport comes up: `TInv` holds of the opened client for its own reason
    have hl := fun es => CbRun.trans (c1 := c.opened nss es)
      ⟨(CbRun.refl c).count, fun h => ⟨h.le, h.nodup⟩, fun _ => nofun⟩
      (cbRun_connectLoop cfg auth.real nss (c.opened nss es) reacts)
    simp only [step]
    unfold connect
    by_cases hc : c.connected = true; · rw [if_pos hc]; exact (CbRun.refl c).congr
    rw [if_neg hc]
    dsimp only
    by_cases he : c.eio = .disconnected
    · rw [if_neg (not_not_intro he)]
      cases oc with
      | refuse arg =>
        refine (CbRun.refl c).congr ?_
        rw [cbOuts_append, cbOuts_of_quiet (by simp [List.all_flatMap, quiet_trigger])]; rfl
      | accept es =>
        dsimp only
        split
        · exact ((hl es).trans (.of_did (apiDisconnect_did cfg _))).congr (by simp [hoa, cbOuts_cons, cbOf])
        · exact (hl es).congr (by simp [hoa, cbOuts_cons, cbOf])
    · rw [if_pos he]; exact (CbRun.refl c).congr
  | emit ev d ns cb reacts => exact cbRun_emit cfg c ev d ns cb reacts
  | send d ns cb reacts =>
    have h := cbRun_emit cfg c sMessage d ns cb reacts
    cases cb <;> exact h
  | call ev d ns tok reacts =>
    have h := cbRun_emitCore cfg c ev d ns (some ⟨tok, .call⟩) reacts
    simp only [step, call]
    split
    · exact h
    · split <;> exact h.congr (by simp [cbOuts_cons, cbOf])
  | disconnect =>
    simp only [step]
    exact (CbRun.of_did (apiDisconnect_did cfg c)).congr (by simp [cbOuts_cons, cbOf])
  | ev e => exact .of_did (deliver_did cfg c e)

theorem cbRun_run (cfg : Cfg) (is : List Input) : ∀ c,
    CbRun (histToks is) c (run cfg c is).1 (run cfg c is).2 := by
  induction is with
  | nil => intro c; exact .refl c
  | cons i is ih => intro c; exact (cbRun_step cfg c i).trans (ih _)

end Sio.Client
