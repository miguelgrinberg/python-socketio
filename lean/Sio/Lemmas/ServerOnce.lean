/-
  K4 — the disconnect handler runs at most once per session, over any history (property C04):
  counting disconnect-handler invocations in the outputs, a potential argument over sequences.
-/
import Sio.Lemmas.ServerEvent
import Sio.Lemmas.ServerHist
namespace Sio.Server
open Sio.Rooms

/-- "disconnect" as an explicit character list: `"disconnect".toList` decodes UTF-8 each time it is
    unfolded, which makes every comparison with it dear; `discName_eq` and `on_eq` are the two
    evaluations, done once. -/
def discName : Str := ['d', 'i', 's', 'c', 'o', 'n', 'n', 'e', 'c', 't']

theorem discName_eq : "disconnect".toList = discName := by rfl

theorem on_eq : "on_".toList = ['o', 'n', '_'] := by rfl

/-- the handler slot of the `disconnect` event: `handlers[ns]['disconnect']` or `on_disconnect` -/
def isDiscSlot : Slot → Bool
  | .fn _ ev => ev == discName
  | .cls _ m => m == "on_".toList ++ discName

/-- the arguments end with `sid, reason` -/
def sidArg (sid : Sid) (a : List J) : Bool :=
  match a.reverse with
  | _ :: .str x :: _ => x == sid
  | _ => false

/-- an invocation of the disconnect handler for session `sid` -/
def isDiscInvoke (sid : Sid) : Out → Bool
  | .invoke slot a => isDiscSlot slot && sidArg sid a
  | _ => false

/-- number of disconnect-handler invocations for `sid` in a list of outputs -/
def discCount (sid : Sid) (outs : List Out) : Nat := outs.countP (isDiscInvoke sid)

theorem discCount_append (sid : Sid) (a b : List Out) :
    discCount sid (a ++ b) = discCount sid a + discCount sid b := List.countP_append

theorem discCount_nil (sid : Sid) : discCount sid [] = 0 := rfl

theorem evStr_eq {ev : J} {s : Str} (h : evStr ev = some s) : ev = .str s := by
  cases ev <;> simp [evStr] at h
  rw [h]

theorem getD_disc {ev : J} (h : (evStr ev).getD [] = discName) : ev = .str discName := by
  cases he : evStr ev with
  | none => rw [he] at h; cases h
  | some s => rw [he] at h; simp at h; rw [← h]; exact evStr_eq he

theorem resolve_not_disc {reg : Registry} {ns : Ns} {ev : J} {args : List J} {r : Resolved}
    (h : resolve reg ns ev args = .ok r) (hev : ev ≠ .str discName) :
    ∀ slot a, r.target = some (slot, a) → isDiscSlot slot = false := by
  intro slot a ht
  cases resolveCase h with
  | fn =>
    cases ht
    rw [Bool.eq_false_iff]
    intro hc
    exact hev (getD_disc (beq_iff_eq.mp hc))
  | fnStar => cases ht; exact (by decide : (star == discName) = false)
  | cls _ _ hm =>
    cases ht
    rcases hm with rfl | ⟨s, hs, rfl⟩
    · simp only [isDiscSlot, on_eq]; decide
    · rw [Bool.eq_false_iff]
      intro hc
      have := List.append_cancel_left (beq_iff_eq.mp hc)
      exact hev (this ▸ evStr_eq hs)
  | clsNoMethod | notHandled => cases ht

theorem discCount_eq_zero {sid : Sid} {outs : List Out}
    (h : ∀ o ∈ outs, isDiscInvoke sid o = false) : discCount sid outs = 0 := by
  unfold discCount
  rw [List.countP_eq_zero]
  intro o ho; simp [h o ho]

theorem sidArg_tail (sid' sid : Sid) (reason : Str) (pre : List J) :
    sidArg sid' (pre ++ [.str sid, .str reason]) = (sid == sid') := by
  simp [sidArg, List.reverse_append]

theorem endSession_disc (cfg : Cfg) (s : Srv) (sid : Sid) (ns : Ns) (reason : Str) (b : Bool)
    (sid' : Sid) :
    discCount sid' (endSession cfg s sid ns reason b).2.1 ≤ 1 ∧
    (sid' ≠ sid → discCount sid' (endSession cfg s sid ns reason b).2.1 = 0) := by
  rw [endSession_eq]
  dsimp only
  have z : discCount sid' (if b = true then sendTo s (eioOf s.rooms ns sid) (pktDisconnect ns none)
      else []) = 0 := by
    apply discCount_eq_zero
    intro o ho
    split at ho
    · obtain ⟨_, _, _, rfl⟩ := mem_sendTo ho; rfl
    · cases ho
  rw [discCount_append, z, Nat.zero_add]
  rcases discRes_outs cfg ns sid reason (cfg.script.onDisconnect s.nDisc) with
    h | h | ⟨r, slot, a, hr, ht, h | h⟩ <;> rw [h]
  · exact ⟨Nat.zero_le _, fun _ => rfl⟩
  · exact ⟨Nat.zero_le _, fun _ => rfl⟩
  all_goals
    obtain ⟨pre, rfl⟩ := resolve_target hr ht
    simp only [discCount, List.countP_cons, List.countP_nil, isDiscInvoke, sidArg_tail, Nat.zero_add,
      Bool.false_eq_true, if_false]
    constructor
    · split <;> omega
    · intro hne
      have : (sid == sid') = false := by simpa using fun h => hne h.symm
      simp [this]

/-- Over a piece of execution from `s` to `s'` with outputs `outs`: the disconnect handler of
    `sidName k` runs at most once, not at all if the session was already dead, and if it runs the
    session is dead afterwards; dead stays dead. -/
structure Once (k : Nat) (s s' : Srv) (outs : List Out) : Prop where
  dead0 : Dead k s → discCount (sidName k) outs = 0
  le1 : discCount (sidName k) outs ≤ 1
  dead1 : discCount (sidName k) outs = 1 → Dead k s'
  mono : Dead k s → Dead k s'

theorem Once.zero {k : Nat} {s s' : Srv} {outs : List Out}
    (hz : discCount (sidName k) outs = 0) (hm : Dead k s → Dead k s') : Once k s s' outs :=
  ⟨fun _ => hz, (by rw [hz]; exact Nat.zero_le _), (fun h => by rw [hz] at h; cases h), hm⟩

theorem Once.refl (k : Nat) (s : Srv) : Once k s s [] := Once.zero rfl id

theorem Once.trans {k : Nat} {a b c : Srv} {o1 o2 : List Out} (h1 : Once k a b o1)
    (h2 : Once k b c o2) : Once k a c (o1 ++ o2) := by
  refine ⟨?_, ?_, ?_, fun h => h2.mono (h1.mono h)⟩
  · intro hd
    rw [discCount_append, h1.dead0 hd, h2.dead0 (h1.mono hd)]
  · rw [discCount_append]
    have a1 := h1.le1
    have a2 := h2.le1
    by_cases hq : discCount (sidName k) o1 = 1
    · have := h2.dead0 (h1.dead1 hq); omega
    · omega
  · rw [discCount_append]
    intro hq
    have a1 := h1.le1
    by_cases hq1 : discCount (sidName k) o1 = 1
    · exact h2.mono (h1.dead1 hq1)
    · exact h2.dead1 (by omega)

theorem once_endSession {s : Srv} (h : WF s) (cfg : Cfg) {sid : Sid} {ns : Ns}
    (hc : isConnected s sid ns = true) (reason : Str) (b : Bool) (k : Nat) :
    Once k s (endSession cfg s sid ns reason b).1 (endSession cfg s sid ns reason b).2.1 := by
  obtain ⟨t, ht⟩ := isConnected_eioOf hc
  have hd := endSession_disc cfg s sid ns reason b (sidName k)
  have hlive : sidLive s.rooms sid := ⟨ns, t, eioOf_some_mem ht⟩
  refine ⟨?_, hd.1, ?_, dead_of_reach (Reach.endSession h cfg hc reason b)⟩
  · intro hdead
    apply hd.2
    rintro rfl
    exact hdead.2 hlive
  · intro h1
    have heq : sidName k = sid := by
      by_cases hne : sidName k = sid
      · exact hne
      · rw [hd.2 hne] at h1; cases h1
    obtain ⟨j, hj⟩ := endSession_state cfg s sid ns reason b
    rw [hj]
    subst heq
    obtain ⟨k', hk', hd⟩ := dead_ending h ht j
    cases sidName_inj hk'
    exact hd

theorem once_handleDisconnect {s : Srv} (h : WF s) (cfg : Cfg) (t : Eio) (ns : Ns) (reason : Str)
    (k : Nat) :
    Once k s (handleDisconnect cfg s t ns reason).1 (handleDisconnect cfg s t ns reason).2.1 := by
  unfold handleDisconnect
  split
  · exact .refl k s
  · split
    · exact .refl k s
    · rename_i hc
      exact once_endSession h cfg (by simpa using hc) reason false k

theorem once_handleConnect {s : Srv} (h : WF s) (cfg : Cfg) (t : Eio) (nsp : Option Str)
    (data : Option J) (k : Nat) :
    Once k s (handleConnect cfg s t nsp data).1 (handleConnect cfg s t nsp data).2 := by
  refine Once.zero (discCount_eq_zero ?_) (dead_of_reach (Reach.handleConnect h cfg t nsp data))
  refine handleConnect_all (P := fun o => isDiscInvoke (sidName k) o = false) (fun _ _ => rfl)
    (fun _ => rfl) fun r slot a hr ht => ?_
  have := resolve_not_disc hr (fun h => absurd (J.str.inj h) (by decide)) slot a ht
  simp only [isDiscInvoke, this, Bool.false_and]

theorem runHandler_disc (cfg : Cfg) (s : Srv) {b : Bg} (hb : b.first ≠ .str discName) (sid' : Sid) :
    ∀ o ∈ (runHandler cfg s b).2, isDiscInvoke sid' o = false :=
  runHandler_all (fun _ _ => rfl) (fun _ => rfl)
    (fun r slot a hr ht => by
      simp only [isDiscInvoke, resolve_not_disc hr hb slot a ht, Bool.false_and]) s

theorem handleEvent_disc (cfg : Cfg) (s : Srv) (t : Eio) (nsp : Option Str) (id : Option Nat)
    (data : Option J) (sid' : Sid)
    (hev : ∀ first rest, splitEvent data = .ok (first, rest) → first ≠ .str discName) :
    discCount sid' (handleEvent cfg s t nsp id data).2 = 0 := by
  apply discCount_eq_zero
  unfold handleEvent
  dsimp only
  split
  · simp [isDiscInvoke]
  · rename_i first rest hd
    split
    · simp
    · split
      · simp
      · split
        · simp
        · exact runHandler_disc cfg _ (hev first rest hd) sid'

/-- the events this frame hands to a handler are not named "disconnect" (the property's domain:
    "clients that emit events literally named connect / disconnect are outside") -/
def EvOk (dec : Str → Except Err (Packet × Nat)) (s : Srv) (t : Eio) (v : J) : Prop :=
  ∀ nsp id data s₁ first rest, CompletesEvent dec s t v nsp id data s₁ →
    splitEvent data = .ok (first, rest) → first ≠ .str discName

theorem once_handleFrame {dec : Str → Except Err (Packet × Nat)} {s : Srv} (h : WF s) (cfg : Cfg)
    {t : Eio} {v : J} (hev : EvOk dec s t v) (k : Nat) :
    Once k s (handleFrame dec cfg s t v).1 (handleFrame dec cfg s t v).2 := by
  refine frame_cases (motive := fun r => (Dead k s → Dead k r.1) → Once k s r.1 r.2)
    (fun _ => .zero rfl) ?_ ?_ ?_
    (fun _ _ _ => once_handleConnect h cfg t _ _ k) (fun _ _ => once_handleDisconnect h cfg t _ _ k)
    (fun _ _ _ => .zero rfl) (dead_of_reach (Reach.handleFrame h dec cfg t v))
  · intro _ _ o _ hr
    refine .zero (discCount_eq_zero fun x hx => ?_)
    obtain ⟨e, rfl⟩ := hr x hx; rfl
  · intro nsp id d s₀ hc
    exact .zero (handleEvent_disc _ _ _ _ _ _ _ (fun first rest hd => hev _ _ _ _ first rest hc hd))
  · intro nsp id d s₀ _
    refine .zero (discCount_eq_zero fun o ho => ?_)
    rcases handleAck_outs s₀ t nsp id d o ho with ⟨e, rfl⟩ | ⟨_, _, n, args, _, _, _, _, rfl, _⟩ <;> rfl

theorem once_lostGo {s : Srv} (h : WF s) (cfg : Cfg) (t : Eio) (reason : Str) (nss : List Ns)
    (k : Nat) :
    Once k s (handleLost.go cfg t reason s [] nss).1 (handleLost.go cfg t reason s [] nss).2 :=
  lostGo_rel (.refl k) .trans (fun _ ns h => once_handleDisconnect h cfg t ns reason k) h nss

theorem drain_outs_eq (cfg : Cfg) (s : Srv) (outs : List Out) (bs : List Bg) :
    step.drain cfg s outs bs =
      ((step.drain cfg s [] bs).1, outs ++ (step.drain cfg s [] bs).2) := by
  induction bs generalizing s outs with
  | nil => simp [step.drain]
  | cons b rest ih =>
    unfold step.drain
    rw [ih, ih (outs := [] ++ _)]
    simp [List.append_assoc]

theorem once_drain {s : Srv} (h : WF s) (cfg : Cfg) (bs : List Bg)
    (hb : ∀ b ∈ bs, b.first ≠ .str discName) (k : Nat) :
    Once k s (step.drain cfg s [] bs).1 (step.drain cfg s [] bs).2 := by
  induction bs generalizing s with
  | nil => exact .refl k s
  | cons b rest ih =>
    unfold step.drain
    rw [drain_outs_eq]
    have h1 : Once k s (runHandler cfg s b).1 (runHandler cfg s b).2 :=
      .zero (discCount_eq_zero (runHandler_disc cfg s (hb b List.mem_cons_self) _))
        (dead_of_reach (Reach.one h (Prim.core (runHandler_core cfg s b))))
    exact h1.trans (by
      simpa using ih (h.of_core (runHandler_core cfg s b))
        (fun b' hb' => hb b' (List.mem_cons_of_mem _ hb')))

/-- the histories of the property's domain: no handler is run for a client event named
    "disconnect" — neither inline (`frame`) nor from the queue of background handlers (`settle`) -/
inductive Dom (dec : Str → Except Err (Packet × Nat)) (cfg : Cfg) : Srv → List Input → Prop where
  | nil {s : Srv} : Dom dec cfg s []
  | frame {s : Srv} {t : Eio} {v : J} {is : List Input} : EvOk dec s t v →
      Dom dec cfg (step dec cfg s (.frame t v)).1 is → Dom dec cfg s (.frame t v :: is)
  | settle {s : Srv} {is : List Input} : (∀ b ∈ s.bg, b.first ≠ .str discName) →
      Dom dec cfg (step dec cfg s .settle).1 is → Dom dec cfg s (.settle :: is)
  | call {s : Srv} {ev : Str} {d : Data} {ns : Ns} {sid : Sid} {during is : List Input} :
      (cfg.asyncHandlers = true → Dom dec cfg (callStart s ev d ns sid).1 during) →
      Dom dec cfg (step dec cfg s (.call ev d ns sid during)).1 is →
      Dom dec cfg s (.call ev d ns sid during :: is)
  | other {s : Srv} {i : Input} {is : List Input} : (∀ t v, i ≠ .frame t v) → i ≠ .settle →
      (∀ ev d ns sid during, i ≠ .call ev d ns sid during) →
      Dom dec cfg (step dec cfg s i).1 is → Dom dec cfg s (i :: is)

theorem once_other {dec : Str → Except Err (Packet × Nat)} {cfg : Cfg} {s : Srv} (h : WF s)
    {i : Input} (h1 : ∀ t v, i ≠ .frame t v) (h2 : i ≠ .settle)
    (h3 : ∀ ev d ns sid during, i ≠ .call ev d ns sid during) (k : Nat) :
    Once k s (step dec cfg s i).1 (step dec cfg s i).2 := by
  have hm : Dead k s → Dead k (step dec cfg s i).1 := dead_of_reach (Reach.step h dec cfg i)
  -- inputs that run no handler at all
  have quiet : (step dec cfg s i).2.filter Out.isInvoke = [] →
      Once k s (step dec cfg s i).1 (step dec cfg s i).2 := by
    refine fun hz => .zero (discCount_eq_zero fun o ho => ?_) hm
    have := List.filter_eq_nil_iff.mp hz o ho
    cases o <;> first | rfl | exact absurd rfl this
  cases i with
  | frame t v => exact absurd rfl (h1 t v)
  | call ev d ns sid during => exact absurd rfl (h3 ev d ns sid during)
  | settle => exact absurd rfl h2
  | eioLost t r =>
    rw [step, handleLost_eq]
    split
    · exact .refl k s
    · -- `dropTransport` keeps rooms and `nextSid`, all that `Dead` reads
      have := (once_lostGo h cfg t r (namespacesOf s.rooms) k).trans (c := dropTransport _ t) (o2 := [])
        (.zero rfl id)
      rwa [List.append_nil] at this
  | apiDisconnect sid ns =>
    rw [step]; unfold apiDisconnect
    split
    · exact .refl k s
    · rename_i hc; exact once_endSession h cfg (by simpa using hc) _ true k
  | emit ev d ns to skip cb =>
    exact .zero (discCount_eq_zero (emit_outs _ _ _ _ _ _ _
      (fun o => isDiscInvoke (sidName k) o = false) (fun _ _ => rfl))) hm
  | eioConnect t | leaveRoom sid ns room | closeRoom ns room | rooms sid ns => apply quiet; rw [step]; rfl
  | enterRoom sid ns room | saveSession sid ns v | sessionBlock sid ns k' v =>
    apply quiet; rw [step]; split <;> rfl
  | getSession sid ns => apply quiet; rw [step]; split <;> (try split) <;> rfl

/-- **the disconnect handler of a session runs at most once over any history of the domain** -/
theorem once_run {dec : Str → Except Err (Packet × Nat)} {cfg : Cfg} {s : Srv} {is : List Input}
    (hd : Dom dec cfg s is) (h : WF s) (k : Nat) :
    Once k s (run dec cfg s is).1 (run dec cfg s is).2 := by
  induction hd with
  | nil => rw [run_nil]; exact .refl k _
  | @frame s t v is hev _ ih =>
    rw [run_cons]
    have h1 : Once k s (step dec cfg s (.frame t v)).1 (step dec cfg s (.frame t v)).2 := by
      rw [step]; exact once_handleFrame h cfg hev k
    exact h1.trans (ih (h.step dec cfg _))
  | @settle s is hb _ ih =>
    rw [run_cons]
    have h1 : Once k s (step dec cfg s .settle).1 (step dec cfg s .settle).2 := by
      rw [step]
      have hw : WF { s with bg := [] } := h.of_core rfl
      have := once_drain hw cfg s.bg hb k
      -- `Dead` reads rooms and `nextSid` only, which clearing the queue keeps
      exact ⟨this.dead0, this.le1, this.dead1, this.mono⟩
    exact h1.trans (ih (h.step dec cfg _))
  | @call s ev d ns sid during is _ _ ih1 ih2 =>
    rw [run_cons]
    have h1 : Once k s (step dec cfg s (.call ev d ns sid during)).1
        (step dec cfg s (.call ev d ns sid during)).2 := by
      rw [step_call]
      split
      · exact .zero rfl id
      · rename_i hc
        have ha : cfg.asyncHandlers = true := by simpa using hc
        have e1 : Once k s (callStart s ev d ns sid).1 (callStart s ev d ns sid).2 :=
          .zero (discCount_eq_zero (emit_outs _ _ _ _ _ _ _
            (fun o => isDiscInvoke (sidName k) o = false) (fun _ _ => rfl)))
            (dead_of_reach (Reach.callStart h ev d ns sid))
        have e2 := ih1 ha (h.callStart ev d ns sid)
        have e3 : Once k (run dec cfg (callStart s ev d ns sid).1 during).1
            (run dec cfg (callStart s ev d ns sid).1 during).1
            [callOutcome (run dec cfg (callStart s ev d ns sid).1 during).1 s.nCall] := by
          refine .zero ?_ id
          unfold callOutcome; split <;> rfl
        exact (e1.trans e2).trans e3
    exact h1.trans (ih2 (h.step dec cfg _))
  | @other s i is h1 h2 h3 _ ih =>
    rw [run_cons]
    exact (once_other h h1 h2 h3 k).trans (ih (h.step dec cfg _))

theorem endSession_invokes (cfg : Cfg) (s : Srv) (sid : Sid) (ns : Ns) (reason : Str) (b : Bool)
    {slot : Slot} {a : List J}
    (hr : resolve cfg.reg ns (.str "disconnect".toList) [.str sid, .str reason] = .ok (.fn slot a) ∨
          resolve cfg.reg ns (.str "disconnect".toList) [.str sid, .str reason] = .ok (.clsCall slot a)) :
    (endSession cfg s sid ns reason b).2.1.filter Out.isInvoke = [.invoke slot a] ∧
    ∃ pre, a = pre ++ [.str sid, .str reason] := by
  constructor
  · have hsend : (if b = true then sendTo s (eioOf s.rooms ns sid) (pktDisconnect ns none)
        else []).filter Out.isInvoke = [] := by
      split
      · exact sendTo_isInvoke ..
      · rfl
    rw [endSession_eq]
    dsimp only
    rw [List.filter_append, hsend]
    rcases hr with hr | hr <;> simp only [discRes, hr, Resolved.target] <;>
      cases cfg.script.onDisconnect s.nDisc <;> rfl
  · rcases hr with hr | hr <;> exact resolve_target hr rfl

end Sio.Server
