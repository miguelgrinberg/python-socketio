/-
  K7 — the client model (Sio/Model/Client.lean) function by function: which branch runs when
  (equations and case lemmas for `handlePkt`, `onMessage`, `deliver`, `emitCore`, `connect`), the
  footprint of a transport event on the state and the trace (`Did`), and the notifications
  (`notes`) of the pieces of a trace.
-/
import Sio.Model.ClientSpec
namespace Sio.Client

theorem trigger_out (cfg : Cfg) (ev : Str) (n : Ns) (args : List J) : (trigger cfg ev n args).1 =
    [.trig ev n (cfg.resolve n ev args)] := by
  unfold trigger
  split <;> rename_i h <;> rw [h]

theorem sendPkt_cases (c : Cli) (p : Packet) : sendPkt c p = [.send p] ∨ sendPkt c p = [] := by
  unfold sendPkt; split <;> simp

/-- starting the reconnection effort touches nothing but its own flag -/
theorem startEffort_eq (c : Cli) : startEffort c = (c, []) ∨ startEffort c =
    ({ c with effort := true }, [.effort]) := by
  unfold startEffort; split <;> simp

theorem handleEvent_state (cfg : Cfg) (c : Cli) (ns : Option Ns) (id : Option Nat) (data : Option J) :
    (handleEvent cfg c ns id data).1 = c := by
  unfold handleEvent
  split
  · split <;> rfl
  · rfl

theorem handleAck_state (c : Cli) (ns : Option Ns) (id : Option Nat) (data : Option J) :
    (handleAck c ns id data).1 = { c with cbs := (handleAck c ns id data).1.cbs } := by
  unfold handleAck
  split
  · rfl
  · split <;> rfl

theorem handleConnect_again (cfg : Cfg) {c : Cli} {ns : Option Ns} (data : Option J)
    (h : hasNs c (nsOr ns) = true) : handleConnect cfg c ns data = (c, []) := by
  simp [handleConnect, h]

theorem handleConnect_new (cfg : Cfg) {c : Cli} {ns : Option Ns} {data : Option J} {s : J}
    (h : hasNs c (nsOr ns) = false) (hs : sidOf c data = .ok s) :
    handleConnect cfg c ns data
      = ({ c with namespaces := c.namespaces ++ [(nsOr ns, s)] }, (trigger cfg sConnect (nsOr ns) []).1) := by
  simp [handleConnect, h, hs]

theorem handleError_out (cfg : Cfg) (c : Cli) (ns : Option Ns) (data : Option J) :
    (handleError cfg c ns data).2 = (trigger cfg sConnectError (nsOr ns) (errArgs data)).1 := by
  unfold handleError
  simp only
  split <;> rfl

theorem handlePkt_cases (cfg : Cfg) (c : Cli) (p : Packet) {P : Cli × List Out → Prop}
    (connect : P (handleConnect cfg c p.nsp p.data)) (disconnect : P (handleDisconnect cfg c p.nsp))
    (event : P (handleEvent cfg c p.nsp p.id p.data)) (ack : P (handleAck c p.nsp p.id p.data))
    (error : P (handleError cfg c p.nsp p.data)) (other : P (c, [.contained .valueError])) :
    P (handlePkt cfg c p) := by
  unfold handlePkt
  by_cases h0 : p.type = CONNECT; · rwa [if_pos h0]
  by_cases h1 : p.type = DISCONNECT; · rwa [if_neg h0, if_pos h1]
  by_cases h2 : p.type = EVENT; · rwa [if_neg h0, if_neg h1, if_pos h2]
  by_cases h3 : p.type = ACK; · rwa [if_neg h0, if_neg h1, if_neg h2, if_pos h3]
  by_cases h4 : p.type = CONNECT_ERROR; · rwa [if_neg h0, if_neg h1, if_neg h2, if_neg h3, if_pos h4]
  rwa [if_neg h0, if_neg h1, if_neg h2, if_neg h3, if_neg h4]

theorem onMessage_cases (cfg : Cfg) (c : Cli) (raw : J) (d : Except Err (Packet × Nat))
    {P : Cli × List Out → Prop} (err : ∀ e, P (c, [.contained e]))
    (buf : ∀ pt, P ({ c with binbuf := some pt }, []))
    (event : ∀ pk : Packet, P (handleEvent cfg { c with binbuf := none } pk.nsp pk.id pk.data))
    (ack : ∀ pk : Packet, P (handleAck { c with binbuf := none } pk.nsp pk.id pk.data))
    (pkt : ∀ p, P (handlePkt cfg c p)) : P (onMessage cfg c raw d) := by
  unfold onMessage
  split
  · split
    · exact err _
    · exact buf _
    · split
      · exact event _
      · exact ack _
  · split
    · exact err _
    · split
      · exact buf _
      · exact pkt _

theorem deliver_down (cfg : Cfg) (c : Cli) (e : Ev) (h : c.eio = .disconnected) :
    deliver cfg c e = (c, []) := by
  cases e <;> simp [deliver, onLost, eioDisconnect, h]

theorem deliver_msg (cfg : Cfg) {c : Cli} (raw : J) (d : Except Err (Packet × Nat))
    (he : c.eio = .connected) : deliver cfg c (.msg raw d) = onMessage cfg c raw d := by
  simp [deliver, he]

section
variable (cfg : Cfg) {c : Cli} {raw : J} (he : c.eio = .connected)
include he

section
variable {p : Packet} {natt : Nat} (hb : c.binbuf = none)
include hb

theorem deliver_connect (ht : p.type = CONNECT) :
    deliver cfg c (.msg raw (.ok (p, natt))) = handleConnect cfg c p.nsp p.data := by
  simp [deliver, he, onMessage, hb, handlePkt, ht, isBinType, CONNECT, BINARY_EVENT, BINARY_ACK]

theorem deliver_disconnect (ht : p.type = DISCONNECT) :
    deliver cfg c (.msg raw (.ok (p, natt))) = handleDisconnect cfg c p.nsp := by
  simp [deliver, he, onMessage, hb, handlePkt, ht, isBinType, CONNECT, DISCONNECT, BINARY_EVENT, BINARY_ACK]

theorem deliver_event (ht : p.type = EVENT) :
    deliver cfg c (.msg raw (.ok (p, natt))) = handleEvent cfg c p.nsp p.id p.data := by
  simp [deliver, he, onMessage, hb, handlePkt, ht, isBinType, CONNECT, DISCONNECT, EVENT, BINARY_EVENT,
    BINARY_ACK]

theorem deliver_ack (ht : p.type = ACK) :
    deliver cfg c (.msg raw (.ok (p, natt))) = handleAck c p.nsp p.id p.data := by
  simp [deliver, he, onMessage, hb, handlePkt, ht, isBinType, CONNECT, DISCONNECT, EVENT, ACK,
    BINARY_EVENT, BINARY_ACK]

theorem deliver_error (ht : p.type = CONNECT_ERROR) :
    deliver cfg c (.msg raw (.ok (p, natt))) = handleError cfg c p.nsp p.data := by
  simp [deliver, he, onMessage, hb, handlePkt, ht, isBinType, CONNECT, DISCONNECT, EVENT, ACK,
    CONNECT_ERROR, BINARY_EVENT, BINARY_ACK]

theorem deliver_header (ht : isBinType p.type = true) :
    deliver cfg c (.msg raw (.ok (p, natt))) = ({ c with binbuf := some ⟨p, natt, []⟩ }, []) := by
  simp [deliver, he, onMessage, hb, ht]

end

variable {d : Except Err (Packet × Nat)} {pt : Partial} (hb : c.binbuf = some pt)
include hb

theorem deliver_more {pt' : Partial} (ha : addAttachment pt raw = .ok (.more pt')) :
    deliver cfg c (.msg raw d) = ({ c with binbuf := some pt' }, []) := by
  simp [deliver, he, onMessage, hb, ha]

theorem deliver_complete {pk : Packet} (ha : addAttachment pt raw = .ok (.complete pk)) :
    deliver cfg c (.msg raw d)
      = if pk.type = BINARY_EVENT then handleEvent cfg { c with binbuf := none } pk.nsp pk.id pk.data
        else handleAck { c with binbuf := none } pk.nsp pk.id pk.data := by
  simp [deliver, he, onMessage, hb, ha]

end

/-- neither a callback invocation, nor a CONNECT packet, nor an auth call -/
def Out.quiet : Out → Bool
  | .callback .. | .authCall => false
  | .send p => p.type != CONNECT
  | _ => true

/-- the end of the transport takes the callback table, the id counters, the binary buffer and the
    session id with it -/
structure Reset (c' : Cli) (o : List Out) : Prop where
  cbs : c'.cbs = []
  ctr : c'.ctr = []
  bin : c'.binbuf = none
  sid : c'.sid = none
  out : o.all Out.quiet = true

/-- The footprint of one piece of the client on the state and the trace.  `msg`: the piece is the
    delivery of a message, which ends the transport only for a `connected` client. -/
inductive Did (msg : Prop) (c c' : Cli) (o : List Out) : Prop where
  /-- the table, the counters, the transport and the session id are left alone; the binary buffer
      moves only while the transport is up; `connected` is not set -/
  | quiet (cbs : c'.cbs = c.cbs) (ctr : c'.ctr = c.ctr) (eio : c'.eio = c.eio) (sid : c'.sid = c.sid)
      (conn : c.connected = false → c'.connected = false)
      (bin : c.eio = .disconnected → c'.binbuf = c.binbuf) (out : o.all Out.quiet = true)
  /-- `_handle_ack`, possibly after the last attachment has emptied the binary buffer -/
  | ack (b : Option Partial) (ns : Option Ns) (id : Option Nat) (data : Option J) (up : c.eio = .connected)
      (h1 : c' = (handleAck { c with binbuf := b } ns id data).1)
      (h2 : o = (handleAck { c with binbuf := b } ns id data).2)
  | ended (up : c.eio = .connected) (h : Reset c' o) (conn : msg → c.connected = true)

theorem quiet_trigger (cfg : Cfg) (ev : Str) (n : Ns) (args : List J) : (trigger cfg ev n args).1.all
    Out.quiet = true := by
  rw [trigger_out]; rfl

theorem quiet_sendPkt (c : Cli) (p : Packet) (h : p.type ≠ CONNECT) : (sendPkt c p).all Out.quiet = true := by
  rcases sendPkt_cases c p with hs | hs <;> rw [hs]
  · simpa [Out.quiet] using h
  · rfl

theorem onEioDisconnect_reset (cfg : Cfg) (c : Cli) (r : Str) : Reset (onEioDisconnect cfg c r).1
    (onEioDisconnect cfg c r).2 := by
  unfold onEioDisconnect
  split
  · exact ⟨rfl, rfl, rfl, rfl, by simp [List.all_flatMap, quiet_trigger]⟩
  · exact ⟨rfl, rfl, rfl, rfl, rfl⟩

theorem eioDisconnect_cases (cfg : Cfg) (c : Cli) (r : Str) :
    c.eio ≠ .connected ∧ eioDisconnect cfg c r = (c, [])
    ∨ c.eio = .connected ∧ Reset (eioDisconnect cfg c r).1 (eioDisconnect cfg c r).2 := by
  have h := onEioDisconnect_reset cfg c r
  unfold eioDisconnect
  split
  · exact .inr ⟨‹_›, { h with }⟩
  · exact .inl ⟨‹_›, rfl⟩

/-- `Did.quiet` for a state that differs from `c` in fields the footprint does not look at -/
theorem Did.frame (c : Cli) {msg : Prop} {c' : Cli} {o : List Out} (out : o.all Out.quiet = true)
    (conn : c.connected = false → c'.connected = false := by exact id) (cbs : c'.cbs = c.cbs := by rfl)
    (ctr : c'.ctr = c.ctr := by rfl) (eio : c'.eio = c.eio := by rfl) (sid : c'.sid = c.sid := by rfl)
    (bin : c'.binbuf = c.binbuf := by rfl) : Did msg c c' o :=
  .quiet cbs ctr eio sid conn (fun _ => bin) out

theorem apiDisconnect_did (cfg : Cfg) (c : Cli) : Did False c (apiDisconnect cfg c).1 (apiDisconnect cfg c).2
    := by
  have hs : (c.namespaces.flatMap fun e => sendPkt c ⟨DISCONNECT, some e.1, none, none⟩).all Out.quiet
      = true := by
    rw [List.all_flatMap, List.all_eq_true]
    exact fun _ _ => quiet_sendPkt c _ (show DISCONNECT ≠ CONNECT by decide)
  unfold apiDisconnect
  dsimp only
  rcases eioDisconnect_cases cfg c rClient with ⟨_, h⟩ | ⟨he, h⟩
  · rw [h]; exact .frame c (by rw [List.append_nil]; exact hs)
  · exact .ended he { h with out := by rw [List.all_append, hs, h.out]; rfl } nofun

theorem handleEvent_quiet (cfg : Cfg) (c : Cli) (ns : Option Ns) (id : Option Nat) (data : Option J) :
    (handleEvent cfg c ns id data).2.all Out.quiet = true := by
  unfold handleEvent
  split
  · split
    · exact quiet_trigger ..
    · rw [List.all_append, quiet_trigger, quiet_sendPkt]
      · rfl
      · -- an ACK stays an ACK or becomes a BINARY_ACK
        unfold evPacket; split
        · exact (by decide : (if ACK = EVENT then BINARY_EVENT else BINARY_ACK) ≠ CONNECT)
        · exact (by decide : ACK ≠ CONNECT)
  · rfl

theorem deliver_did (cfg : Cfg) (c : Cli) (e : Ev) :
    Did (∃ raw d, e = .msg raw d) c (deliver cfg c e).1 (deliver cfg c e).2 := by
  cases e with
  | close =>
    rcases eioDisconnect_cases cfg c rServer with ⟨_, h⟩ | ⟨he, h⟩
    · rw [deliver, h]; exact .frame c rfl
    · exact .ended he h nofun
  | lost =>
    simp only [deliver, onLost]
    split
    · have h := onEioDisconnect_reset cfg c rTransport
      rcases startEffort_eq { (onEioDisconnect cfg c rTransport).1 with eio := .disconnected } with hs | hs <;>
        rw [hs] <;> exact .ended ‹_› { h with out := by rw [List.all_append, h.out]; rfl } nofun
    · exact .frame c rfl
  | msg raw d =>
    simp only [deliver]
    split
    · rename_i he
      have up {α : Prop} : c.eio = .disconnected → α := fun h => nomatch he.symm.trans h
      refine onMessage_cases (P := fun r => Did _ c r.1 r.2) cfg c raw d (fun _ => .frame c rfl)
        (fun _ => .quiet rfl rfl rfl rfl id up rfl)
        (fun _ => by rw [handleEvent_state]; exact .quiet rfl rfl rfl rfl id up (handleEvent_quiet ..))
        (fun _ => .ack none _ _ _ he rfl rfl) fun p => ?_
      refine handlePkt_cases (P := fun r => Did _ c r.1 r.2) cfg c p ?_ ?_
        (by rw [handleEvent_state]; exact .frame c (handleEvent_quiet ..)) (.ack c.binbuf _ _ _ he rfl rfl) ?_
        (.frame c rfl)
      · unfold handleConnect
        dsimp only
        split
        · exact .frame c rfl
        · split
          · exact .frame c rfl
          · exact .frame c (quiet_trigger ..)
      · unfold handleDisconnect
        split
        · exact .frame c rfl
        · rename_i hc
          have hc : c.connected = true := by simpa using hc
          dsimp only
          split
          · obtain ⟨_, h⟩ | ⟨_, h⟩ := eioDisconnect_cases cfg (r := rClient)
              (c := { c with namespaces := dropNs c.namespaces (nsOr p.nsp), connected := false })
            · rw [h]
              exact .frame c (by rw [List.append_nil]; exact quiet_trigger ..) fun _ => rfl
            · exact .ended he { h with out := by rw [List.all_append, quiet_trigger, h.out]; rfl } fun _ => hc
          · exact .frame c (quiet_trigger ..)
      · rw [show (handleError cfg c p.nsp p.data).2 = _ from handleError_out ..]
        unfold handleError
        dsimp only
        split
        · exact .frame c (quiet_trigger ..) fun _ => rfl
        · exact .frame c (quiet_trigger ..)
    · exact .frame c rfl

/-- the client once `emit()` has stored its callback, if it was given one -/
def Cli.registered (c : Cli) (n : Ns) : Option Cb → Cli
  | some k => (genId c n k).1
  | none => c

theorem emitCore_cases {P : Cli × List Out × Bool → Prop} (cfg : Cfg) (c : Cli) (ev : Str) (d : Data)
    (ns : Option Ns) (cb : Option Cb) (reacts : List Ev)
    (bad : hasNs c (nsOr ns) = false → P (c, [.raised .badNamespace], false))
    (sent : ∀ p, hasNs c (nsOr ns) = true → (c.registered (nsOr ns) cb).eio = .connected →
      P ((deliverAll cfg (c.registered (nsOr ns) cb) reacts).1,
         .send p :: (deliverAll cfg (c.registered (nsOr ns) cb) reacts).2, true))
    (dropped : hasNs c (nsOr ns) = true → (c.registered (nsOr ns) cb).eio ≠ .connected →
      P (c.registered (nsOr ns) cb, [], true)) :
    P (emitCore cfg c ev d ns cb reacts) := by
  unfold emitCore
  dsimp only
  cases hn : hasNs c (nsOr ns) with
  | false => exact bad hn
  | true =>
    rw [if_neg (by decide)]
    cases cb with
    | none =>
      by_cases he : c.eio = .connected
      · rw [if_pos he]; exact sent _ hn he
      · rw [if_neg he]; exact dropped hn he
    | some k =>
      by_cases he : (genId c (nsOr ns) k).1.eio = .connected
      · rw [if_pos he]; exact sent _ hn he
      · rw [if_neg he]; exact dropped hn he

/-- the client as `_handle_eio_connect` finds it: `eio.connect()` has just succeeded -/
abbrev Cli.opened (c : Cli) (nss : List Ns) (es : Str) : Cli :=
  { c with requested := nss, namespaces := [], eio := .connected, sid := some es }

theorem connect_accept (cfg : Cfg) (c : Cli) (nss : List Ns) (auth : Auth) (wait : Bool) (es : Str)
    (reacts : List (List Ev)) (hc : c.connected = false) (he : c.eio = .disconnected) :
    connect cfg c nss auth wait (.accept es) reacts =
      let r := connectLoop cfg auth.real (c.opened nss es) nss reacts
      let oa : List Out := if auth.callable then [.authCall] else []
      if wait && !sameSet (r.1.namespaces.map (·.1)) nss then
        ({ (apiDisconnect cfg r.1).1 with namespaces := [] },
         oa ++ r.2 ++ (apiDisconnect cfg r.1).2 ++ [.raised .connectionError])
      else ({ r.1 with connected := true }, oa ++ r.2 ++ [.result .none]) := by
  unfold connect
  simp only [hc, Bool.false_eq_true, if_false, he, ne_eq, not_true_eq_false, Cli.opened]

theorem connect_refuse (cfg : Cfg) (c : Cli) (nss : List Ns) (auth : Auth) (wait : Bool) (arg : J)
    (reacts : List (List Ev)) (hc : c.connected = false) (he : c.eio = .disconnected) :
    connect cfg c nss auth wait (.refuse arg) reacts =
      ({ c with requested := nss, namespaces := [] },
       nss.flatMap (fun n => (trigger cfg sConnectError n [arg]).1) ++ [.raised .connectionError]) := by
  unfold connect
  simp only [hc, Bool.false_eq_true, if_false, he, ne_eq, not_true_eq_false]

attribute [simp] noteOf

@[simp] theorem notes_nil : notes [] = [] := rfl

@[simp] theorem notes_append (a b : List Out) : notes (a ++ b) = notes a ++ notes b := by
  simp [notes, List.filterMap_append]

@[simp] theorem notes_cons (o : Out) (os : List Out) :
    notes (o :: os) = (noteOf o).toList ++ notes os := by
  simp only [notes, List.filterMap_cons]
  cases noteOf o <;> simp

theorem notes_cons_other {o : Out} (os : List Out) (h : noteOf o = none := by rfl) :
    notes (o :: os) = notes os := by
  rw [notes_cons, h]; rfl

@[simp] theorem notes_trigger_connect (cfg : Cfg) (n : Ns) (args : List J) : notes
    (trigger cfg sConnect n args).1 = [.accepted n] := by
  rw [trigger_out]; rfl

@[simp] theorem notes_trigger_disconnect (cfg : Cfg) (n : Ns) (args : List J) : notes
    (trigger cfg sDisconnect n args).1 = [.ended n] := by
  rw [trigger_out]; rfl

@[simp] theorem notes_trigger_error (cfg : Cfg) (n : Ns) (args : List J) : notes
    (trigger cfg sConnectError n args).1 = [.refused n] := by
  rw [trigger_out]; rfl

theorem notes_trigger_other (cfg : Cfg) (ev : Str) (n : Ns) (args : List J) (h : isReservedName ev = false) :
    notes (trigger cfg ev n args).1 = [] := by
  simp only [isReservedName, Bool.or_eq_false_iff, decide_eq_false_iff_not] at h
  rw [trigger_out, notes_cons, noteOf, if_neg h.1.1, if_neg h.2, if_neg h.1.2]; rfl

theorem notes_sendPkt (c : Cli) (p : Packet) : notes (sendPkt c p) = [] := by
  rcases sendPkt_cases c p with h | h <;> rw [h] <;> rfl

theorem notes_startEffort (c : Cli) : notes (startEffort c).2 = [] := by
  rcases startEffort_eq c with h | h <;> rw [h] <;> rfl

theorem notes_flatMap_disconnect (cfg : Cfg) (reason : Str) (l : List (Ns × J)) :
    notes (l.flatMap (fun e => (trigger cfg sDisconnect e.1 [.str reason]).1))
      = l.map (fun e => Note.ended e.1) := by
  induction l with
  | nil => rfl
  | cons a l ih => simp [List.flatMap_cons, ih]

theorem notes_flatMap_sendPkt (c : Cli) (l : List (Ns × J)) :
    notes (l.flatMap (fun e => sendPkt c ⟨DISCONNECT, some e.1, none, none⟩)) = [] := by
  rw [notes, List.filterMap_flatMap]; simp [show ∀ p, (sendPkt c p).filterMap noteOf = [] from notes_sendPkt c]

theorem notes_refuse (cfg : Cfg) (arg : J) (nss : List Ns) :
    notes (nss.flatMap (fun n => (trigger cfg sConnectError n [arg]).1)) = nss.map Note.refused := by
  induction nss with
  | nil => rfl
  | cons a l ih => simp [List.flatMap_cons, ih]

theorem notes_handleEvent {cfg : Cfg} {c : Cli} {ns : Option Ns} {id : Option Nat} {data : Option J}
    (h : reservedEvent data = false) : notes (handleEvent cfg c ns id data).2 = [] := by
  unfold handleEvent
  split
  · rename_i name args
    have hn : isReservedName name = false := by simpa [reservedEvent] using h
    split <;> simp [notes_trigger_other _ _ _ _ hn, notes_sendPkt]
  · rfl

theorem notes_handleAck (c : Cli) (ns : Option Ns) (id : Option Nat) (data : Option J) : notes
    (handleAck c ns id data).2 = [] := by
  unfold handleAck
  split
  · rfl
  · split
    · rfl
    · unfold ackOuts
      split
      · split <;> rfl
      · rfl

end Sio.Client
