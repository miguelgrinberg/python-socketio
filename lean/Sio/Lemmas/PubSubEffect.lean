/-
  K6 (pub/sub): what channel entries do to a host.  One well-formed entry (`listenMsg`): its effect
  on the room table, on what each client sees and on which disconnect handlers run is a function
  of (host id, room table) — `roomsAfter`, `seenAfter`, `discAfter`.  A batch (`catchUp`,
  `deliverOn`) and a whole drain pass (`drainHosts`) fold these; `callback` entries are transparent.
-/
import Sio.Lemmas.PubSubListen
import Sio.Lemmas.RoomsEmit
namespace Sio.PubSub
open Sio.Rooms

theorem eq_of_map_eq {α β : Type} {l : List α} {f : α → β} (hnd : (l.map f).Nodup) {a b : α}
    (ha : a ∈ l) (hb : b ∈ l) (h : f a = f b) : a = b := by
  induction l with
  | nil => cases ha
  | cons x l ih =>
    simp only [List.map_cons, List.nodup_cons] at hnd
    rcases List.mem_cons.mp ha with rfl | ha' <;> rcases List.mem_cons.mp hb with rfl | hb'
    · rfl
    · exact absurd (h ▸ List.mem_map_of_mem hb') hnd.1
    · exact absurd (h.symm ▸ List.mem_map_of_mem ha') hnd.1
    · exact ih hnd.2 ha' hb'

theorem nodup_of_nodup_map {α β : Type} {l : List α} {f : α → β} (hnd : (l.map f).Nodup) :
    l.Nodup :=
  List.Pairwise.of_map f (fun _ _ h e => h (congrArg f e)) hnd

theorem flatMap_unique {α β : Type} (l : List α) (hnd : l.Nodup) (P : α → Prop) [DecidablePred P]
    (a : β) (huniq : ∀ x ∈ l, ∀ y ∈ l, P x → P y → x = y) :
    l.flatMap (fun x => if P x then [a] else []) = if ∃ x ∈ l, P x then [a] else [] := by
  induction l with
  | nil => simp
  | cons x l ih =>
    rw [List.nodup_cons] at hnd
    rw [List.flatMap_cons]
    have ih' := ih hnd.2 (fun y hy z hz => huniq y (List.mem_cons_of_mem _ hy) z (List.mem_cons_of_mem _ hz))
    by_cases hx : P x
    · have hno : ¬ ∃ y ∈ l, P y := by
        rintro ⟨y, hy, hpy⟩
        have := huniq x List.mem_cons_self y (List.mem_cons_of_mem _ hy) hx hpy
        exact hnd.1 (this ▸ hy)
      rw [ih', if_pos hx, if_neg hno, if_pos ⟨x, List.mem_cons_self, hx⟩]
      rfl
    · rw [ih', if_neg hx, List.nil_append]
      simp only [List.mem_cons, or_and_right, exists_or, exists_eq_left, hx, false_or]

theorem flatMap_congr' {α β : Type} {l : List α} {f g : α → List β} (h : ∀ x ∈ l, f x = g x) :
    l.flatMap f = l.flatMap g := by
  rw [List.flatMap_def, List.flatMap_def, List.map_congr_left h]

/-- a distinguished element first, then the others: the same as everybody in list order, when at most
    one contributes -/
theorem flatMap_unique_split {α β κ : Type} [DecidableEq κ] (l : List α) (key : α → κ)
    (hnd : (l.map key).Nodup) (P : α → Prop) [DecidablePred P] (a : β)
    (huniq : ∀ x ∈ l, ∀ y ∈ l, P x → P y → x = y) {x0 : α} (h0 : x0 ∈ l) :
    (if P x0 then [a] else []) ++
        l.flatMap (fun x => if key x0 = key x then [] else if P x then [a] else []) =
      l.flatMap (fun x => if P x then [a] else []) := by
  by_cases hp : P x0
  · -- nobody else contributes
    have hrest : l.flatMap (fun x => if key x0 = key x then [] else if P x then [a] else []) = [] := by
      refine List.flatMap_eq_nil_iff.mpr fun x hx => ?_
      split
      · rfl
      · rename_i hk
        exact if_neg fun px => hk (congrArg key (huniq x0 h0 x hx hp px))
    rw [hrest, flatMap_unique l (nodup_of_nodup_map hnd) P a huniq, if_pos hp, if_pos ⟨x0, h0, hp⟩]
    rfl
  · rw [if_neg hp, List.nil_append]
    refine flatMap_congr' fun x hx => ?_
    split
    · rename_i hk
      rw [← eq_of_map_eq hnd h0 hx hk, if_neg hp]
    · rfl

def Msg.isCb : Msg → Bool
  | .callback .. => true
  | _ => false

def AllCb (ms : List Msg) : Prop := ∀ m ∈ ms, m.isCb = true

theorem AllCb.nil : AllCb [] := by intro m hm; cases hm

theorem AllCb.append {a b : List Msg} (ha : AllCb a) (hb : AllCb b) : AllCb (a ++ b) :=
  List.forall_mem_append.mpr ⟨ha, hb⟩

/-- `to=[]` is not a target an application can name (it is falsy: "everybody") -/
def Target.ok : Target → Prop
  | .many [] => False
  | _ => True

theorem target_ok {t : Target} (h : Target.ok t) : (targetFld t).target = .ok t := by
  cases t with
  | all => rfl
  | one r => rfl
  | many rs =>
    cases rs with
    | nil => exact h.elim
    | cons r rs => rfl

/-- the disconnect-handler invocations among the outputs -/
def discEvents : List Out → List (Sid × Ns)
  | [] => []
  | .discHandler _ sid ns :: rest => (sid, ns) :: discEvents rest
  | _ :: rest => discEvents rest

theorem seenBy_append (sid : Sid) (a b : List Out) :
    seenBy sid (a ++ b) = seenBy sid a ++ seenBy sid b := by
  induction a with
  | nil => rfl
  | cons o a ih =>
    cases o <;> simp only [List.cons_append, seenBy, ih] <;> split <;> simp

theorem discEvents_append (a b : List Out) : discEvents (a ++ b) = discEvents a ++ discEvents b := by
  induction a with
  | nil => rfl
  | cons o a ih => cases o <;> simp [discEvents, ih]

theorem appEvents_append (a b : List Out) : appEvents (a ++ b) = appEvents a ++ appEvents b := by
  induction a with
  | nil => rfl
  | cons o a ih => cases o <;> simp [appEvents, ih]

theorem askedIn_append (a b : List Out) : askedIn (a ++ b) = askedIn a ++ askedIn b := by
  induction a with
  | nil => rfl
  | cons o a ih =>
    cases o with
    | send host sid eio f =>
      obtain ⟨ns, ev, args, id⟩ := f
      cases id <;> simp [askedIn, ih]
    | _ => simp [askedIn, ih]

@[simp] theorem register_rooms (h : Host) (k : Str) (cb : Cb) : (register h k cb).1.rooms = h.rooms := rfl
@[simp] theorem register_id (h : Host) (k : Str) (cb : Cb) : (register h k cb).1.id = h.id := rfl
@[simp] theorem register_cursor (h : Host) (k : Str) (cb : Cb) : (register h k cb).1.cursor = h.cursor := rfl

theorem sendCb_rooms (cb : Cb) (ns : Ns) (ev : J) (args : List J) (h : Host) (l : List (Sid × Eio)) :
    (sendCb cb ns ev args h l).1.rooms = h.rooms ∧ (sendCb cb ns ev args h l).1.id = h.id ∧
    (sendCb cb ns ev args h l).1.cursor = h.cursor := by
  induction l generalizing h with
  | nil => exact ⟨rfl, rfl, rfl⟩
  | cons p ps ih =>
    simp only [sendCb]
    have := ih (register h p.1 cb).1
    simpa using this

theorem emitLocal_rooms (h : Host) (ns : Ns) (t : Target) (skip : List Sid) (ev : J) (args : List J)
    (cb : Option Cb) :
    (emitLocal h ns t skip ev args cb).1.rooms = h.rooms ∧
    (emitLocal h ns t skip ev args cb).1.id = h.id ∧
    (emitLocal h ns t skip ev args cb).1.cursor = h.cursor := by
  unfold emitLocal
  split
  · exact ⟨rfl, rfl, rfl⟩
  · cases cb with
    | none => exact ⟨rfl, rfl, rfl⟩
    | some c => exact sendCb_rooms c ns ev args h _

/-- what client `sid` sees of one emit applied to a room table -/
def seenEmit (rooms : Rooms.St) (ns : Ns) (t : Target) (skip : List Sid) (ev : J) (args : List J)
    (wantsAck : Bool) (sid : Sid) : List Seen :=
  if sid ∈ (recipients rooms ns t skip).map Prod.fst then [.event ns ev args wantsAck] else []

theorem flatMap_fst_eq (sid : Sid) (a : Seen) (l : List (Sid × Eio)) (hnd : (l.map Prod.fst).Nodup) :
    l.flatMap (fun p => if p.1 = sid then [a] else []) = if sid ∈ l.map Prod.fst then [a] else [] := by
  rw [flatMap_unique l (nodup_of_nodup_map hnd) (fun p => p.1 = sid) a
    (fun x hx y hy px py => eq_of_map_eq hnd hx hy (px.trans py.symm))]
  exact ite_congr (propext List.mem_map.symm) (fun _ => rfl) (fun _ => rfl)

theorem seenBy_map_send (hid : HostId) (ns : Ns) (ev : J) (args : List J) (sid : Sid)
    (l : List (Sid × Eio)) :
    seenBy sid (l.map (fun p => Out.send hid p.1 p.2 ⟨ns, ev, args, none⟩)) =
      l.flatMap (fun p => if p.1 = sid then [.event ns ev args false] else []) := by
  induction l with
  | nil => rfl
  | cons p ps ih => simp only [List.map_cons, seenBy, List.flatMap_cons, ih]; split <;> rfl

theorem seenBy_sendCb (cb : Cb) (ns : Ns) (ev : J) (args : List J) (sid : Sid) (h : Host)
    (l : List (Sid × Eio)) :
    seenBy sid (sendCb cb ns ev args h l).2 =
      l.flatMap (fun p => if p.1 = sid then [.event ns ev args true] else []) := by
  induction l generalizing h with
  | nil => rfl
  | cons p ps ih => simp only [sendCb, seenBy, List.flatMap_cons, ih]; split <;> rfl

theorem recipients_nil_of_not_hasNs {s : Rooms.St} {ns : Ns} (hn : hasNs s ns = false) (t : Target)
    (skip : List Sid) : recipients s ns t skip = [] := by
  refine List.eq_nil_iff_forall_not_mem.mpr fun p hp => ?_
  obtain ⟨room, he⟩ := mem_participants (List.mem_filter.mp hp).1
  exact Bool.eq_false_iff.mp hn (hasNs_iff.mpr ⟨_, he, rfl⟩)

theorem recipients_fst_nodup {s : Rooms.St} (h : Inv s) (ns : Ns) (t : Target) (skip : List Sid) :
    ((recipients s ns t skip).map Prod.fst).Nodup := by
  unfold recipients
  have := h.participants_nodup ns t
  rw [List.nodup_iff_pairwise_ne] at this ⊢
  rw [List.pairwise_map] at this ⊢
  exact this.filter _

/-- each client sees an emit at most once, and exactly when it is a recipient -/
theorem seenBy_emitLocal (h : Host) (hinv : Inv h.rooms) (ns : Ns) (t : Target) (skip : List Sid)
    (ev : J) (args : List J) (cb : Option Cb) (sid : Sid) :
    seenBy sid (emitLocal h ns t skip ev args cb).2 =
      seenEmit h.rooms ns t skip ev args cb.isSome sid := by
  unfold emitLocal seenEmit
  split
  · rename_i hn
    simp only [Bool.not_eq_true'] at hn
    simp [recipients_nil_of_not_hasNs hn, seenBy]
  · have hnd := recipients_fst_nodup hinv ns t skip
    cases cb with
    | none => exact (seenBy_map_send ..).trans (flatMap_fst_eq sid _ _ hnd)
    | some c => exact (seenBy_sendCb ..).trans (flatMap_fst_eq sid _ _ hnd)

theorem discEvents_sendCb (cb : Cb) (ns : Ns) (ev : J) (args : List J) (h : Host)
    (l : List (Sid × Eio)) : discEvents (sendCb cb ns ev args h l).2 = [] := by
  induction l generalizing h with
  | nil => rfl
  | cons p ps ih => simp only [sendCb, discEvents, ih]

theorem discEvents_emitLocal (h : Host) (ns : Ns) (t : Target) (skip : List Sid) (ev : J)
    (args : List J) (cb : Option Cb) : discEvents (emitLocal h ns t skip ev args cb).2 = [] := by
  unfold emitLocal
  split
  · rfl
  · cases cb with
    | none =>
      simp only
      generalize recipients h.rooms ns t skip = l
      induction l with
      | nil => rfl
      | cons p ps ih => simp only [List.map_cons, discEvents, ih]
    | some c => exact discEvents_sendCb c ns ev args h _

/-- `r` is callback bookkeeping on `h` only: room table, identity and cursor stay, nothing but
    `callback` messages is published, no client and no disconnect handler notices anything -/
structure CbOnly (h : Host) (r : Res) : Prop where
  rooms : r.h.rooms = h.rooms
  id : r.h.id = h.id
  cursor : r.h.cursor = h.cursor
  pubs : AllCb r.pubs
  seen : ∀ sid, seenBy sid r.outs = []
  disc : discEvents r.outs = []
  asked : askedIn r.outs = []

theorem CbOnly.idle (h : Host) : CbOnly h { h := h } := ⟨rfl, rfl, rfl, AllCb.nil, fun _ => rfl, rfl, rfl⟩

theorem trigger_cbOnly (fuel : Nat) (h : Host) (key : Str) (id : Nat) (args : Option (List J)) :
    CbOnly h (trigger fuel h key id args) :=
  trigger_induct (P := CbOnly) args .idle
    (fun _ _ _ _ => ⟨rfl, rfl, rfl, AllCb.nil, fun _ => rfl, rfl, rfl⟩)
    (fun _ _ _ _ _ _ _ => ⟨rfl, rfl, rfl, AllCb.nil, fun _ => rfl, rfl, rfl⟩)
    (fun _ _ _ _ _ _ _ _ _ _ =>
      ⟨rfl, rfl, rfl, fun _ hm => List.mem_singleton.mp hm ▸ rfl, fun _ => rfl, rfl, rfl⟩)
    (fun _ _ _ _ ih => { ih with }) fuel h key id

theorem listenMsg_of_dispatch {h : Host} {m : Msg} {r : Res} (hd : dispatch h m.toD = r)
    (he : r.err = none) : listenMsg h m = r := by
  unfold listenMsg
  simp only [hd, he]

theorem listenMsg_callback (h : Host) (origin : Option HostId) (key : Str) (ns : Ns) (id : Nat)
    (args : List J) :
    listenMsg h (.callback origin key ns id args) =
      if origin = some h.id then trigger chainFuel h key id (some args) else { h := h } := by
  refine listenMsg_of_dispatch ((dispatch_mCallback rfl).trans ?_) ?_
  · by_cases hq : origin = some h.id <;> simp [Msg.toD, handleCallback, hq]
  · split
    · exact trigger_err_none ..
    · rfl

/-- the relay that `_handle_emit` builds from the token in the message -/
def relayOf (o : HostId) : Option (Str × Ns × Nat) → Option Cb
  | none => none
  | some (k, n, i) => some (.relay (some o) k n i)

theorem relayOf_isSome (o : HostId) (cb : Option (Str × Ns × Nat)) :
    (relayOf o cb).isSome = cb.isSome := by
  cases cb with
  | none => rfl
  | some c => obtain ⟨k, n, i⟩ := c; rfl

theorem handleEmit_msg (h : Host) (o : HostId) (ev : Str) (d : Data) (ns : Ns) (to : Target)
    (skip : Skip) (cb : Option (Str × Ns × Nat)) (hok : Target.ok to) :
    handleEmit h (Msg.emit o ev d ns to skip cb).toD =
      { h := (emitLocal h ns to skip.toList (.str ev) d.pack (relayOf o cb)).1,
        outs := (emitLocal h ns to skip.toList (.str ev) d.pack (relayOf o cb)).2 } := by
  have htk := target_ok hok
  simp only [Msg.toD, handleEmit, htk]
  rcases cb with _ | ⟨k, n, i⟩ <;> cases hn : hasNs h.rooms ns <;> simp [relayOf, emitLocal, hn]

theorem dispatch_disconnect (h : Host) (o : HostId) (sid : Sid) (ns : Ns) (ho : o ≠ h.id) :
    dispatch h (Msg.disconnect o sid ns).toD = localDisconnect h sid ns := by
  rw [dispatch_mDisconnect rfl (fun he => ho (Option.some.inj he))]
  simp only [Msg.toD, handleDisconnect, connectedFld, Host.connected]
  by_cases hc : (eioOf h.rooms ns sid).isSome = true
  · simp only [hc, if_true]
  · have hn : eioOf h.rooms ns sid = none := by simpa using hc
    simp [hn, localDisconnect]

/-- the host id that published a (non-`callback`) entry -/
def Msg.origin : Msg → Option HostId
  | .emit o .. => some o
  | .callback o .. => o
  | .disconnect o .. => some o
  | .enterRoom o .. => some o
  | .leaveRoom o .. => some o
  | .closeRoom o .. => some o

theorem listenMsg_own (h : Host) (m : Msg) (hm : m.isCb = false) (ho : m.origin = some h.id) :
    listenMsg h m = { h := h } := by
  refine listenMsg_of_dispatch (dispatch_own _ _ ?_ ?_) rfl
  · cases m <;> first | exact ho | cases hm
  · cases m with
    | callback => cases hm
    | _ => simp only [Msg.toD, ne_eq, Option.some.injEq, method_ne, not_false_eq_true]

/-- the room table after a host has applied a channel entry -/
def roomsAfter (hid : HostId) (r : Rooms.St) : Msg → Rooms.St
  | .emit .. => r
  | .callback .. => r
  | .disconnect o sid ns => if o = hid then r else Rooms.disconnect r ns sid
  | .enterRoom o sid ns room =>
    if o = hid then r else
      match eioOf r ns sid with
      | some eio => add r ⟨ns, some room, sid, eio⟩
      | none => r
  | .leaveRoom o sid ns room => if o = hid then r else Rooms.leave r ns sid (some room)
  | .closeRoom o ns room => if o = hid then r else Rooms.closeRoom r ns room

/-- what client `sid` sees when a host applies a channel entry -/
def seenAfter (hid : HostId) (r : Rooms.St) (sid : Sid) : Msg → List Seen
  | .emit o ev d ns to skip cb =>
    if o = hid then [] else seenEmit r ns to skip.toList (.str ev) d.pack cb.isSome sid
  | .disconnect o sid' ns =>
    if o = hid then [] else if sid' = sid ∧ (eioOf r ns sid').isSome then [.disconnect ns] else []
  | _ => []

/-- the disconnect handlers that run when a host applies a channel entry -/
def discAfter (hid : HostId) (r : Rooms.St) : Msg → List (Sid × Ns)
  | .disconnect o sid ns => if o = hid then [] else if (eioOf r ns sid).isSome then [(sid, ns)] else []
  | _ => []

section foreign
variable (h : Host) (o : HostId)

theorem listenMsg_emit_eq (ev : Str) (d : Data) (ns : Ns) (to : Target) (skip : Skip)
    (cb : Option (Str × Ns × Nat)) (ho : o ≠ h.id) (hok : Target.ok to) :
    listenMsg h (.emit o ev d ns to skip cb) =
      { h := (emitLocal h ns to skip.toList (.str ev) d.pack (relayOf o cb)).1,
        outs := (emitLocal h ns to skip.toList (.str ev) d.pack (relayOf o cb)).2 } :=
  listenMsg_of_dispatch ((dispatch_mEmit rfl (fun he => ho (Option.some.inj he))).trans
    (handleEmit_msg h o ev d ns to skip cb hok)) rfl

theorem listenMsg_disconnect_eq (sid : Sid) (ns : Ns) (ho : o ≠ h.id) :
    listenMsg h (.disconnect o sid ns) = localDisconnect h sid ns :=
  listenMsg_of_dispatch (dispatch_disconnect h o sid ns ho) (by unfold localDisconnect; split <;> rfl)

theorem listenMsg_enterRoom_eq (sid : Sid) (ns : Ns) (room : Room) (ho : o ≠ h.id) :
    listenMsg h (.enterRoom o sid ns room) =
      match eioOf h.rooms ns sid with
      | some eio => { h := { h with rooms := add h.rooms ⟨ns, some room, sid, eio⟩ } }
      | none => { h := h } := by
  refine listenMsg_of_dispatch ((dispatch_mEnterRoom rfl (fun he => ho (Option.some.inj he))).trans ?_)
    (by split <;> rfl)
  simp only [Msg.toD, handleEnterRoom, connectedFld, Host.connected]
  by_cases hc : (eioOf h.rooms ns sid).isSome = true
  · simp only [hc, if_true]
    cases hq : eioOf h.rooms ns sid <;> rfl
  · have hn : eioOf h.rooms ns sid = none := by simpa using hc
    simp [hn]

theorem listenMsg_leaveRoom_eq (sid : Sid) (ns : Ns) (room : Room) (ho : o ≠ h.id) :
    listenMsg h (.leaveRoom o sid ns room) =
      if h.connected ns sid then { h := { h with rooms := Rooms.leave h.rooms ns sid (some room) } }
      else { h := h } := by
  refine listenMsg_of_dispatch ((dispatch_mLeaveRoom rfl (fun he => ho (Option.some.inj he))).trans ?_)
    (by split <;> rfl)
  simp only [Msg.toD, handleLeaveRoom, connectedFld]
  cases hq : h.connected ns sid <;> simp

theorem listenMsg_closeRoom_eq (ns : Ns) (room : Room) (ho : o ≠ h.id) :
    listenMsg h (.closeRoom o ns room) =
      { h := { h with rooms := Rooms.closeRoom h.rooms ns room } } :=
  listenMsg_of_dispatch (dispatch_mCloseRoom rfl (fun he => ho (Option.some.inj he))) rfl

end foreign

theorem disconnect_noop_of_not_connected {s : Rooms.St} (hinv : Inv s) {ns : Ns} {sid : Sid}
    (hn : eioOf s ns sid = none) : Rooms.disconnect s ns sid = s := by
  unfold Rooms.disconnect
  rw [List.filter_eq_self]
  intro e he
  have := hinv.no_entry_of_eioOf_none hn e he
  simp only [Bool.not_eq_true', decide_eq_false_iff_not, not_and]
  exact this

theorem leave_noop_of_not_connected {s : Rooms.St} (hinv : Inv s) {ns : Ns} {sid : Sid}
    (room : Option Room) (hn : eioOf s ns sid = none) : Rooms.leave s ns sid room = s := by
  unfold Rooms.leave
  rw [List.filter_eq_self]
  intro e he
  have := hinv.no_entry_of_eioOf_none hn e he
  simp only [Bool.not_eq_true', decide_eq_false_iff_not, not_and]
  intro h1 _
  exact this h1

theorem localDisconnect_obs (h : Host) (sid : Sid) (ns : Ns) :
    (localDisconnect h sid ns).h.id = h.id ∧ (localDisconnect h sid ns).h.cursor = h.cursor ∧
    (localDisconnect h sid ns).pubs = [] ∧
    (∀ x, seenBy x (localDisconnect h sid ns).outs =
      if sid = x ∧ (eioOf h.rooms ns sid).isSome then [.disconnect ns] else []) ∧
    discEvents (localDisconnect h sid ns).outs =
      (if (eioOf h.rooms ns sid).isSome then [(sid, ns)] else []) := by
  unfold localDisconnect
  cases hq : eioOf h.rooms ns sid with
  | none => simp [seenBy, discEvents]
  | some eio =>
    refine ⟨rfl, rfl, rfl, fun x => ?_, by simp [discEvents]⟩
    by_cases hx : sid = x <;> simp [seenBy, hx]

theorem localDisconnect_rooms (h : Host) (hinv : Inv h.rooms) (sid : Sid) (ns : Ns) :
    (localDisconnect h sid ns).h.rooms = Rooms.disconnect h.rooms ns sid := by
  unfold localDisconnect
  split
  · rename_i hq; exact (disconnect_noop_of_not_connected hinv hq).symm
  · rfl

theorem listenMsg_effect (h : Host) (hinv : Inv h.rooms) (m : Msg) (hm : m.isCb = false)
    (hok : ∀ o ev d ns to skip cb, m = .emit o ev d ns to skip cb → Target.ok to) :
    (listenMsg h m).h.rooms = roomsAfter h.id h.rooms m ∧
    (listenMsg h m).h.id = h.id ∧ (listenMsg h m).pubs = [] ∧
    (∀ sid, seenBy sid (listenMsg h m).outs = seenAfter h.id h.rooms sid m) ∧
    discEvents (listenMsg h m).outs = discAfter h.id h.rooms m := by
  by_cases hown : m.origin = some h.id
  · rw [listenMsg_own h m hm hown]
    cases m with
    | callback => cases hm
    | _ =>
      cases hown
      simp only [roomsAfter, seenAfter, discAfter, if_true, true_and]
      exact ⟨fun _ => rfl, rfl⟩
  · have ho : ∀ {o}, m.origin = some o → o ≠ h.id := fun e he => hown (e.trans (congrArg some he))
    cases m with
    | callback origin key ns id args => cases hm
    | emit o ev d ns to skip cb =>
      have ho := ho rfl
      rw [listenMsg_emit_eq h o ev d ns to skip cb ho (hok o ev d ns to skip cb rfl)]
      have hr := emitLocal_rooms h ns to skip.toList (.str ev) d.pack (relayOf o cb)
      refine ⟨hr.1, hr.2.1, rfl, ?_, ?_⟩
      · intro sid
        simp only [seenAfter, ho, if_false]
        rw [seenBy_emitLocal h hinv, relayOf_isSome]
      · exact discEvents_emitLocal ..
    | disconnect o sid ns =>
      have ho := ho rfl
      obtain ⟨e1, _, e3, e4, e5⟩ := localDisconnect_obs h sid ns
      rw [listenMsg_disconnect_eq h o sid ns ho]
      simp only [roomsAfter, seenAfter, discAfter, ho, if_false]
      exact ⟨localDisconnect_rooms h hinv sid ns, e1, e3, e4, e5⟩
    | enterRoom o sid ns room =>
      have ho := ho rfl
      rw [listenMsg_enterRoom_eq h o sid ns room ho]
      simp only [roomsAfter, seenAfter, discAfter, ho, if_false]
      cases eioOf h.rooms ns sid <;> simp [seenBy, discEvents]
    | leaveRoom o sid ns room =>
      have ho := ho rfl
      rw [listenMsg_leaveRoom_eq h o sid ns room ho]
      simp only [roomsAfter, seenAfter, discAfter, ho, if_false, Host.connected]
      by_cases hc : (eioOf h.rooms ns sid).isSome = true
      · simp [hc, seenBy, discEvents]
      · have hq : eioOf h.rooms ns sid = none := by simpa using hc
        simp [hq, seenBy, discEvents, leave_noop_of_not_connected hinv (some room) hq]
    | closeRoom o ns room =>
      have ho := ho rfl
      rw [listenMsg_closeRoom_eq h o ns room ho]
      simp [roomsAfter, seenAfter, discAfter, ho, seenBy, discEvents]

theorem mem_recipients_iff {r : Rooms.St} (hr : Inv r) (ns : Ns) (t : Target) (skip : List Sid)
    (sid : Sid) :
    sid ∈ (recipients r ns t skip).map Prod.fst ↔
      isMember r ns none sid = true ∧ addressed r ns sid t ∧ sid ∉ skip := by
  unfold recipients
  rw [mem_fst_filter_skip, hr.mem_fst_participants, and_assoc]

theorem recipient_entry {r : Rooms.St} (hr : Inv r) {ns : Ns} {t : Target} {skip : List Sid}
    {sid : Sid} (h : sid ∈ (recipients r ns t skip).map Prod.fst) :
    ∃ eio, (⟨ns, none, sid, eio⟩ : Entry) ∈ r :=
  isMember_iff.mp ((mem_recipients_iff hr ns t skip sid).mp h).1

def roomsAfterL (hid : HostId) (r : Rooms.St) (ms : List Msg) : Rooms.St :=
  ms.foldl (roomsAfter hid) r

def seenAfterL (hid : HostId) (r : Rooms.St) (sid : Sid) : List Msg → List Seen
  | [] => []
  | m :: ms => seenAfter hid r sid m ++ seenAfterL hid (roomsAfter hid r m) sid ms

def discAfterL (hid : HostId) (r : Rooms.St) : List Msg → List (Sid × Ns)
  | [] => []
  | m :: ms => discAfter hid r m ++ discAfterL hid (roomsAfter hid r m) ms

/-- every emit in the list names a proper target -/
def EmitsOk (ms : List Msg) : Prop :=
  ∀ m ∈ ms, ∀ o ev d ns to skip cb, m = .emit o ev d ns to skip cb → Target.ok to

theorem EmitsOk.nil : EmitsOk [] := by intro m hm; cases hm

theorem EmitsOk.append {a b : List Msg} (ha : EmitsOk a) (hb : EmitsOk b) : EmitsOk (a ++ b) :=
  List.forall_mem_append.mpr ⟨ha, hb⟩

theorem EmitsOk.emit {to : Target} (hok : Target.ok to) {o : HostId} {ev : Str} {d : Data} {ns : Ns}
    {skip : Skip} {cb : Option (Str × Ns × Nat)} : EmitsOk [.emit o ev d ns to skip cb] := by
  intro m hm o' ev' d' ns' to' skip' cb' he
  cases List.mem_singleton.mp hm; cases he; exact hok

theorem EmitsOk.of_allCb {a : List Msg} (ha : AllCb a) : EmitsOk a := by
  intro m hm o ev d ns to skip cb he
  have := ha m hm
  subst he; cases this

theorem EmitsOk.sub {a b : List Msg} (ha : EmitsOk a) (hs : ∀ m ∈ b, m ∈ a) : EmitsOk b :=
  fun m hm => ha m (hs m hm)

/-- the entries of a batch that are not `callback` messages -/
def noCb (ms : List Msg) : List Msg := ms.filter (fun m => !m.isCb)

theorem noCb_append (a b : List Msg) : noCb (a ++ b) = noCb a ++ noCb b := List.filter_append ..

theorem noCb_allCb {a : List Msg} (h : AllCb a) : noCb a = [] :=
  List.filter_eq_nil_iff.mpr (fun m hm => by rw [h m hm]; decide)

theorem effect_noCb (hid : HostId) (r : Rooms.St) (sid : Sid) (ms : List Msg) :
    roomsAfterL hid r ms = roomsAfterL hid r (noCb ms) ∧
    seenAfterL hid r sid ms = seenAfterL hid r sid (noCb ms) ∧
    discAfterL hid r ms = discAfterL hid r (noCb ms) := by
  induction ms generalizing r with
  | nil => exact ⟨rfl, rfl, rfl⟩
  | cons m ms ih =>
    obtain ⟨i1, i2, i3⟩ := ih (roomsAfter hid r m)
    cases m with
    | callback => exact ⟨i1, i2, i3⟩
    | _ => exact ⟨i1, congrArg (_ ++ ·) i2, congrArg (_ ++ ·) i3⟩

theorem effect_congr (hid : HostId) (r : Rooms.St) (sid : Sid) {a b : List Msg} (h : noCb a = noCb b) :
    roomsAfterL hid r a = roomsAfterL hid r b ∧ seenAfterL hid r sid a = seenAfterL hid r sid b ∧
    discAfterL hid r a = discAfterL hid r b := by
  obtain ⟨a1, a2, a3⟩ := effect_noCb hid r sid a
  obtain ⟨b1, b2, b3⟩ := effect_noCb hid r sid b
  rw [a1, a2, a3, b1, b2, b3, h]
  exact ⟨rfl, rfl, rfl⟩

theorem effect_allCb (hid : HostId) (r : Rooms.St) (sid : Sid) {a : List Msg} (h : AllCb a) :
    roomsAfterL hid r a = r ∧ seenAfterL hid r sid a = [] ∧ discAfterL hid r a = [] :=
  effect_congr hid r sid (b := []) (noCb_allCb h)

theorem noCb_sandwich {a b : List Msg} (p : List Msg) (ha : AllCb a) (hb : AllCb b) :
    noCb (a ++ p ++ b) = noCb p := by
  rw [noCb_append, noCb_append, noCb_allCb ha, noCb_allCb hb, List.nil_append, List.append_nil]

/-- callbacks before, the interesting part, callbacks after -/
theorem roomsAfterL_sandwich (hid : HostId) (r : Rooms.St) (a p b : List Msg) (ha : AllCb a)
    (hb : AllCb b) : roomsAfterL hid r (a ++ p ++ b) = roomsAfterL hid r p :=
  (effect_congr hid r [] (noCb_sandwich p ha hb)).1

theorem seenAfterL_sandwich (hid : HostId) (r : Rooms.St) (sid : Sid) (a p b : List Msg)
    (ha : AllCb a) (hb : AllCb b) : seenAfterL hid r sid (a ++ p ++ b) = seenAfterL hid r sid p :=
  (effect_congr hid r sid (noCb_sandwich p ha hb)).2.1

theorem discAfterL_sandwich (hid : HostId) (r : Rooms.St) (a p b : List Msg) (ha : AllCb a)
    (hb : AllCb b) : discAfterL hid r (a ++ p ++ b) = discAfterL hid r p :=
  (effect_congr hid r [] (noCb_sandwich p ha hb)).2.2

theorem roomsAfterL_append (hid : HostId) (r : Rooms.St) (a b : List Msg) :
    roomsAfterL hid r (a ++ b) = roomsAfterL hid (roomsAfterL hid r a) b := List.foldl_append ..

theorem seenAfterL_append (hid : HostId) (r : Rooms.St) (sid : Sid) (a b : List Msg) :
    seenAfterL hid r sid (a ++ b) =
      seenAfterL hid r sid a ++ seenAfterL hid (roomsAfterL hid r a) sid b := by
  induction a generalizing r with
  | nil => rfl
  | cons m ms ih =>
    simp only [List.cons_append, seenAfterL, ih, List.append_assoc]
    rfl

theorem discAfterL_append (hid : HostId) (r : Rooms.St) (a b : List Msg) :
    discAfterL hid r (a ++ b) = discAfterL hid r a ++ discAfterL hid (roomsAfterL hid r a) b := by
  induction a generalizing r with
  | nil => rfl
  | cons m ms ih =>
    simp only [List.cons_append, discAfterL, ih, List.append_assoc]
    rfl

theorem inv_roomsAfter (hid : HostId) {r : Rooms.St} (hinv : Inv r) (m : Msg) :
    Inv (roomsAfter hid r m) := by
  cases m with
  | emit | callback => exact hinv
  | disconnect o sid ns =>
    simp only [roomsAfter]; split
    · exact hinv
    · exact hinv.disconnect ns sid
  | enterRoom o sid ns room =>
    simp only [roomsAfter]; split
    · exact hinv
    · split
      · rename_i eio hq; exact hinv.add (eioOf_some_mem hq)
      · exact hinv
  | leaveRoom o sid ns room =>
    simp only [roomsAfter]; split
    · exact hinv
    · exact hinv.leave ns sid room
  | closeRoom o ns room =>
    simp only [roomsAfter]; split
    · exact hinv
    · exact hinv.closeRoom ns room

theorem inv_roomsAfterL (hid : HostId) {r : Rooms.St} (hinv : Inv r) (ms : List Msg) :
    Inv (roomsAfterL hid r ms) := by
  induction ms generalizing r with
  | nil => exact hinv
  | cons m ms ih => exact ih (inv_roomsAfter hid hinv m)

/-- `r` is what applying the batch `ms` gives on host `h`, as far as rooms and clients go -/
structure Applied (h : Host) (ms : List Msg) (r : Res) : Prop where
  rooms : r.h.rooms = roomsAfterL h.id h.rooms ms
  id : r.h.id = h.id
  pubs : AllCb r.pubs
  seen : ∀ sid, seenBy sid r.outs = seenAfterL h.id h.rooms sid ms
  disc : discEvents r.outs = discAfterL h.id h.rooms ms

namespace Applied
variable {h : Host} {ms ms' : List Msg} {r r' : Res}

theorem inv (a : Applied h ms r) (hinv : Inv h.rooms) : Inv r.h.rooms :=
  a.rooms ▸ inv_roomsAfterL h.id hinv ms

theorem seq (a : Applied h ms r) (a' : Applied r.h ms' r') :
    Applied h (ms ++ ms') { h := r'.h, outs := r.outs ++ r'.outs, pubs := r.pubs ++ r'.pubs } where
  rooms := by rw [roomsAfterL_append, ← a.rooms, ← a.id]; exact a'.rooms
  id := a'.id.trans a.id
  pubs := a.pubs.append a'.pubs
  seen sid := by rw [seenBy_append, seenAfterL_append, a.seen, a'.seen, a.rooms, a.id]
  disc := by rw [discEvents_append, discAfterL_append, a.disc, a'.disc, a.rooms, a.id]

end Applied

theorem listenMsg_applied (h : Host) (hinv : Inv h.rooms) (m : Msg)
    (hok : ∀ o ev d ns to skip cb, m = .emit o ev d ns to skip cb → Target.ok to) :
    Applied h [m] (listenMsg h m) := by
  cases hcb : m.isCb with
  | true =>
    cases m with
    | callback origin key ns id args =>
      have e : CbOnly h (listenMsg h (.callback origin key ns id args)) := by
        rw [listenMsg_callback]
        split
        · exact trigger_cbOnly ..
        · exact .idle h
      exact { e with }
    | _ => cases hcb
  | false =>
    obtain ⟨e1, e2, e4, e5, e6⟩ := listenMsg_effect h hinv m hcb hok
    exact ⟨e1, e2, e4 ▸ AllCb.nil, fun sid => (e5 sid).trans (List.append_nil _).symm,
      e6.trans (List.append_nil _).symm⟩

theorem catchUp_effect (h : Host) (hinv : Inv h.rooms) (ms : List Msg) (hok : EmitsOk ms) :
    Applied h ms (catchUp h ms) := by
  induction ms generalizing h with
  | nil => exact ⟨rfl, rfl, AllCb.nil, fun _ => rfl, rfl⟩
  | cons m ms ih =>
    have a := listenMsg_applied h hinv m (hok m List.mem_cons_self)
    exact a.seq (ih _ (a.inv hinv) (fun x hx => hok x (List.mem_cons_of_mem _ hx)))

theorem deliverOn_applied (chan : List Msg) (k : Nat) (h : Host) (hinv : Inv h.rooms)
    (hok : EmitsOk chan) : Applied h ((chan.drop h.cursor).take k) (deliverOn chan k h) :=
  have a := catchUp_effect h hinv _ (hok.sub fun _ hm => List.mem_of_mem_drop (List.mem_of_mem_take hm))
  { a with }

theorem deliverOn_all (chan : List Msg) (h : Host) (hinv : Inv h.rooms) (hcur : h.cursor ≤ chan.length)
    (hok : EmitsOk chan) :
    Applied h (chan.drop h.cursor) (deliverOn chan chan.length h) ∧
    (deliverOn chan chan.length h).h.cursor = chan.length := by
  have hb : (chan.drop h.cursor).take chan.length = chan.drop h.cursor :=
    List.take_of_length_le (by simp only [List.length_drop]; omega)
  refine ⟨hb ▸ deliverOn_applied chan chan.length h hinv hok, ?_⟩
  simp only [deliverOn, hb, List.length_drop]
  omega

/-- (id, room table) of a host: all that rooms and clients depend on -/
def Host.view (h : Host) : HostId × Rooms.St := (h.id, h.rooms)

/-- the channel is consumed up to `callback` entries -/
def Pending (hosts : List Host) (chan : List Msg) : Prop :=
  ∀ h ∈ hosts, h.cursor ≤ chan.length ∧ AllCb (chan.drop h.cursor)

theorem drainHosts_effect (chan : List Msg) (hosts : List Host) (Q : Host → List Msg)
    (hinv : ∀ h ∈ hosts, Inv h.rooms) (hcur : ∀ h ∈ hosts, h.cursor ≤ chan.length)
    (hok : EmitsOk chan) (hQ : ∀ h ∈ hosts, noCb (chan.drop h.cursor) = noCb (Q h)) :
    (∃ B, AllCb B ∧ (drainHosts chan hosts).2.2 = chan ++ B) ∧
    (drainHosts chan hosts).1.map Host.view =
      hosts.map (fun h => (h.id, roomsAfterL h.id h.rooms (Q h))) ∧
    Pending (drainHosts chan hosts).1 (drainHosts chan hosts).2.2 ∧
    (∀ sid, seenBy sid (drainHosts chan hosts).2.1 =
      hosts.flatMap (fun h => seenAfterL h.id h.rooms sid (Q h))) ∧
    discEvents (drainHosts chan hosts).2.1 =
      hosts.flatMap (fun h => discAfterL h.id h.rooms (Q h)) := by
  induction hosts generalizing chan with
  | nil => exact ⟨⟨[], AllCb.nil, (List.append_nil _).symm⟩, rfl, nofun, fun _ => rfl, rfl⟩
  | cons h hs ih =>
    obtain ⟨a, e3⟩ := deliverOn_all chan h (hinv h List.mem_cons_self) (hcur h List.mem_cons_self) hok
    have hcur' : ∀ x ∈ hs, x.cursor ≤ (chan ++ (deliverOn chan chan.length h).pubs).length :=
      fun x hx => List.length_append ▸ Nat.le_add_right_of_le (hcur x (List.mem_cons_of_mem _ hx))
    -- what `h` published is callbacks only: the later hosts see the effect of `chan`
    obtain ⟨⟨B, hB, hBeq⟩, f2, f3, f4, f5⟩ :=
      ih (chan ++ (deliverOn chan chan.length h).pubs)
        (fun x hx => hinv x (List.mem_cons_of_mem _ hx)) hcur' (hok.append (.of_allCb a.pubs))
        fun x hx => by
          rw [List.drop_append_of_le_length (hcur x (List.mem_cons_of_mem _ hx)), noCb_append,
            noCb_allCb a.pubs, List.append_nil]
          exact hQ x (List.mem_cons_of_mem _ hx)
    have hq := fun sid => effect_congr h.id h.rooms sid (hQ h List.mem_cons_self)
    simp only [drainHosts]
    refine ⟨⟨(deliverOn chan chan.length h).pubs ++ B, a.pubs.append hB, ?_⟩, ?_,
      List.forall_mem_cons.mpr ⟨?_, f3⟩, ?_, ?_⟩
    · rw [hBeq, List.append_assoc]
    · rw [List.map_cons, List.map_cons, f2]
      exact congrArg (· :: _) (Prod.ext a.id (a.rooms.trans (hq []).1))
    · rw [hBeq, e3]
      refine ⟨by simp only [List.length_append]; omega, ?_⟩
      rw [List.append_assoc, List.drop_left]
      exact a.pubs.append hB
    · intro sid
      rw [seenBy_append, a.seen, f4 sid, List.flatMap_cons, (hq sid).2.1]
    · rw [discEvents_append, a.disc, f5, List.flatMap_cons, (hq []).2.2]

end Sio.PubSub
