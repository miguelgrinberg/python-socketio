/-
  K7 — the simulation between the client model (Sio/Model/Client.lean) and the server's view
  (Sio/Model/ClientSpec.lean).  The relation `R` is the view's own invariant (`VInv`,
  Sio/Lemmas/ClientSpec) together with `Mirror`, which says how the client's fields reflect the
  view; one lemma per effect of an accepted event (`EvCase`), then transport events, reaction lists,
  the connect window, API calls and whole histories (`sim_run`).  The same walk carries the balance
  of the notifications (`Bal`), which needs the invariant at every step.
-/
import Sio.Lemmas.Client
import Sio.Lemmas.ClientSpec
namespace Sio.Client

/-- How the client's state reflects the server's view. -/
structure Mirror (m : Mode) (c : Cli) (v : View) : Prop where
  eio : c.eio = (if v.up then Eio.connected else Eio.disconnected)
  conn : c.connected = (if m = .live then v.up else false)
  /-- the namespace map is the accepted map, unless a refusal of `/` has cleared it … -/
  ns1 : root ∉ v.ref → c.namespaces = v.acc
  /-- … and then it still lies within it -/
  ns2 : ∀ e ∈ c.namespaces, hasKey v.acc e.1 = true
  sid : c.sid = v.esid
  bin : c.binbuf = v.pend
  idle : v.up = false → c.cbs = [] ∧ c.ctr = []

/-- The simulation relation; `q` is the list of namespaces the current (or last) `connect` asked for. -/
structure R (m : Mode) (q : List Ns) (c : Cli) (v : View) : Prop extends Mirror m c v, VInv m q v

theorem R_initR (b : Bool) (q : List Ns) : R .live q (initR b) View.down :=
  ⟨by constructor <;> simp [initR, View.down], VInv_down q⟩

theorem R_init (q : List Ns) : R .live q init View.down := R_initR false q

theorem hasNs_eq_hasKey (c : Cli) (n : Ns) : hasNs c n = hasKey c.namespaces n := rfl

theorem Mirror.eio_up {m : Mode} {c : Cli} {v : View} (h : Mirror m c v) (hup : v.up = true) : c.eio =
    .connected :=
  h.eio.trans (if_pos hup)

theorem Mirror.eio_down {m : Mode} {c : Cli} {v : View} (h : Mirror m c v) (hup : v.up = false) : c.eio =
    .disconnected :=
  h.eio.trans (if_neg (ne_true_of_eq_false hup))

theorem Mirror.conn_live {c : Cli} {v : View} (h : Mirror .live c v) : c.connected = v.up := by simpa using
    h.conn

/-- while the transport is up the relation does not look at the callback table -/
theorem Mirror.setCbs {m : Mode} {c : Cli} {v : View} (h : Mirror m c v) (hup : v.up = true)
    {l : List (Ns × Nat × Cb)}
    {k : List (Ns × Nat)} : Mirror m { c with cbs := l, ctr := k } v :=
  { h with idle := fun hd => by cases hup.symm.trans hd }

theorem R.ns_live {q : List Ns} {c : Cli} {v : View} (h : R .live q c v) : c.namespaces = v.acc :=
  h.ns1 fun hr => nomatch h.rootref hr

theorem R.eio_win {w : Bool} {q : List Ns} {c : Cli} {v : View} (h : R (.win w) q c v) : c.eio = .connected :=
    h.eio_up (h.winup nofun)

theorem R.not_hasNs {m : Mode} {q : List Ns} {c : Cli} {v : View} (h : R m q c v) {n : Ns}
    (hk : hasKey v.acc n = false) : hasNs c n = false := by
  refine hasKey_eq_false.mpr fun e he hn => ?_
  have := h.ns2 e he
  rw [hn, hk] at this; cases this

theorem R.up_of_hasKey {m : Mode} {q : List Ns} {c : Cli} {v : View} (h : R m q c v) {n : Ns}
    (hk : hasKey v.acc n = true) : v.up = true := by
  cases hup : v.up with
  | true => rfl
  | false => rw [h.down hup] at hk; cases hk

theorem R.startEffort {m : Mode} {q : List Ns} {c : Cli} {v : View} (h : R m q c v) : R m q (startEffort c).1
    v := by
  rcases startEffort_eq c with he | he <;> rw [he]
  · exact h
  · exact { h with }

/-- the whole connection ends (transport loss, engine.io CLOSE, `disconnect()`) -/
theorem sim_end (cfg : Cfg) {q : List Ns} {c : Cli} {v : View} (reason : Str) (h : R .live q c v)
    (hup : v.up = true) :
    R .live q { (onEioDisconnect cfg c reason).1 with eio := .disconnected } View.down
    ∧ notes (onEioDisconnect cfg c reason).2 = v.acc.map (fun e => Note.ended e.1) := by
  have hc : c.connected = true := h.conn_live.trans hup
  unfold onEioDisconnect
  simp only [hc, if_true]
  exact ⟨⟨by constructor <;> simp [View.down], VInv_down q⟩, by rw [notes_flatMap_disconnect, h.ns_live]⟩

theorem sim_accept (cfg : Cfg) {m : Mode} {q : List Ns} {c : Cli} {v : View} (h : R m q c v)
    {nsp : Option Ns} {data : Option J} {s : J} (hn : nsOr nsp ∈ v.asked)
    (hs : sidVal v.esid data = .ok s) :
    Mirror m (handleConnect cfg c nsp data).1
        { v with asked := dropAsk v.asked (nsOr nsp), acc := v.acc ++ [(nsOr nsp, s)] }
    ∧ notes (handleConnect cfg c nsp data).2 = [.accepted (nsOr nsp)] := by
  rw [handleConnect_new cfg (h.not_hasNs (h.pending _ (.inl hn)).2) (h.sid ▸ hs)]
  refine ⟨{ h.toMirror with ns1 := fun hr => by simp [h.ns1 hr], ns2 := fun e he => ?_ },
    notes_trigger_connect ..⟩
  rw [hasKey_append]
  rcases List.mem_append.mp he with he | he
  · simp [h.ns2 e he]
  · simp [List.mem_singleton.mp he]

theorem sim_refuse (cfg : Cfg) {m : Mode} {q : List Ns} {c : Cli} {v : View} (h : R m q c v)
    {nsp : Option Ns} (data : Option J) (hn : nsOr nsp ∈ v.asked)
    (hm : m = .win true ∨ nsOr nsp ≠ root) :
    Mirror m (handleError cfg c nsp data).1
        { v with asked := dropAsk v.asked (nsOr nsp), ref := nsOr nsp :: v.ref }
    ∧ notes (handleError cfg c nsp data).2 = [.refused (nsOr nsp)] := by
  refine ⟨?_, by rw [handleError_out, notes_trigger_error]⟩
  by_cases hroot : nsOr nsp = root
  · -- `/` refused: only a waiting `connect` may see it, and the client drops every namespace
    have hmw : m = .win true := hm.resolve_right (not_not_intro hroot)
    have heq : (handleError cfg c nsp data).1 = { c with namespaces := [], connected := false } := by
      simp [handleError, hroot]
    rw [heq]
    exact { h.toMirror with
      conn := by simp [hmw]
      ns1 := fun hr => absurd (by simp [hroot]) hr
      ns2 := fun _ he => nomatch he }
  · have heq : (handleError cfg c nsp data).1 = { c with namespaces := dropNs c.namespaces (nsOr nsp) } := by
      simp [handleError, hroot]
    rw [heq, dropNs_of_not_hasKey _ _ (h.not_hasNs (h.pending _ (.inl hn)).2)]
    exact { h.toMirror with
      ns1 := fun hr => h.ns1 fun h2 => hr (List.mem_cons_of_mem _ h2) }

theorem sim_leave (cfg : Cfg) {q : List Ns} {c : Cli} {v : View} (h : R .live q c v)
    (hup : v.up = true) (nsp : Option Ns) :
    Mirror .live (handleDisconnect cfg c nsp).1
        (if (dropNs v.acc (nsOr nsp)).isEmpty then View.down
         else { v with acc := dropNs v.acc (nsOr nsp) })
    ∧ notes (handleDisconnect cfg c nsp).2 = [.ended (nsOr nsp)] := by
  have hc : c.connected = true := h.conn_live.trans hup
  have hns := h.ns_live
  have heio := h.eio_up hup
  cases hemp : (dropNs v.acc (nsOr nsp)).isEmpty with
  | true =>
    -- the last namespace: the client ends the transport itself
    have hnil : dropNs c.namespaces (nsOr nsp) = [] := by rw [hns]; exact List.isEmpty_iff.mp hemp
    have heq : handleDisconnect cfg c nsp
        = ({ c with namespaces := [], connected := false, cbs := [], ctr := [], binbuf := none,
                    sid := none, eio := .disconnected },
           (trigger cfg sDisconnect (nsOr nsp) [.str rServer]).1 ++ [.close]) := by
      simp [handleDisconnect, hc, eioDisconnect, onEioDisconnect, heio, hnil]
    rw [heq]
    exact ⟨by constructor <;> simp [View.down], by simp⟩
  | false =>
    have heq : handleDisconnect cfg c nsp
        = ({ c with namespaces := dropNs c.namespaces (nsOr nsp) },
           (trigger cfg sDisconnect (nsOr nsp) [.str rServer]).1) := by
      have hemp' : (dropNs c.namespaces (nsOr nsp)).isEmpty = false := by rw [hns]; exact hemp
      simp [handleDisconnect, hc, hemp']
    rw [heq]
    refine ⟨{ h.toMirror with ns1 := fun _ => by simp [hns], ns2 := fun e he => ?_ }, by simp⟩
    exact hasKey_iff_mem_keys.mpr (List.mem_map_of_mem (hns ▸ he))

theorem sim_ev (cfg : Cfg) {m : Mode} {q : List Ns} {c : Cli} {v : View} {v' : View} {e : Ev} {t : List Note}
    (h : R m q c v) (hs : specEv m v e = some (v', t)) :
    R m q (deliver cfg c e).1 v' ∧ notes (deliver cfg c e).2 = t ∧ Bal v t v' := by
  cases hup : v.up with
  | false =>
    rw [specEv_down e hup] at hs; cases hs
    rw [deliver_down cfg c e (h.eio_down hup)]
    exact ⟨h, rfl, .refl v⟩
  | true =>
    have heio := h.eio_up hup
    have hi := specEv_inv h.toVInv hs
    suffices Mirror m (deliver cfg c e).1 v' ∧ notes (deliver cfg c e).2 = t from
      ⟨⟨this.1, hi.1⟩, this.2, hi.2⟩
    have hpend : ∀ p, Mirror m { c with binbuf := p } { v with pend := p } := fun p =>
      { h.toMirror with bin := rfl }
    cases specEv_cases hup hs with
    | lost hm =>
      subst hm
      obtain ⟨hR, hn⟩ := sim_end cfg rTransport h hup
      simp only [deliver, onLost, heio, if_true]
      exact ⟨hR.startEffort.toMirror, by rw [notes_append, hn, notes_startEffort, List.append_nil]⟩
    | close hm =>
      subst hm
      obtain ⟨hR, hn⟩ := sim_end cfg rServer h hup
      simp only [deliver, eioDisconnect, heio, if_true]
      exact ⟨hR.toMirror, hn⟩
    | more hp ha => rw [deliver_more cfg heio (h.bin.trans hp) ha]; exact ⟨hpend _, rfl⟩
    | complete hp ha hr =>
      rw [deliver_complete cfg heio (h.bin.trans hp) ha]
      split
      · rw [handleEvent_state]; exact ⟨hpend _, notes_handleEvent (hr ‹_›)⟩
      · rw [handleAck_state]; exact ⟨(hpend none).setCbs hup, notes_handleAck ..⟩
    | accept hp ht hn hsid =>
      rw [deliver_connect cfg heio (h.bin.trans hp) ht]
      exact sim_accept cfg h hn hsid
    | again hp ht hk hr =>
      rw [deliver_connect cfg heio (h.bin.trans hp) ht,
        handleConnect_again cfg _ (by rw [hasNs, h.ns1 hr]; exact hk)]
      exact ⟨h.toMirror, rfl⟩
    | refuse hp ht hn hr =>
      rw [deliver_error cfg heio (h.bin.trans hp) ht]
      exact sim_refuse cfg h _ hn hr
    | leave hp ht hm hk =>
      subst hm
      rw [deliver_disconnect cfg heio (h.bin.trans hp) ht]
      exact sim_leave cfg h hup _
    | event hp ht hr =>
      rw [deliver_event cfg heio (h.bin.trans hp) ht, handleEvent_state]
      exact ⟨h.toMirror, notes_handleEvent hr⟩
    | ack hp ht =>
      rw [deliver_ack cfg heio (h.bin.trans hp) ht, handleAck_state]
      exact ⟨h.toMirror.setCbs hup, notes_handleAck ..⟩
    | header hp ht hn =>
      rw [deliver_header cfg heio (h.bin.trans hp) ht]
      exact ⟨hpend _, rfl⟩

theorem sim_evs (cfg : Cfg) {m : Mode} {q : List Ns} (es : List Ev) :
    ∀ {c : Cli} {v v' : View} {t : List Note}, R m q c v → specEvs m v es = some (v', t) →
    R m q (deliverAll cfg c es).1 v' ∧ notes (deliverAll cfg c es).2 = t ∧ Bal v t v' := by
  induction es with
  | nil => intro c v v' t h hs; cases hs; exact ⟨h, rfl, .refl v⟩
  | cons e es ih =>
    intro c v v' t h hs
    obtain ⟨v1, t1, t2, h1, h2, rfl⟩ := specEvs_cons hs
    obtain ⟨hR1, hn1, hb1⟩ := sim_ev cfg h h1
    obtain ⟨hR2, hn2, hb2⟩ := ih hR1 h2
    exact ⟨hR2, by rw [deliverAll, notes_append, hn1, hn2], hb1.trans hb2⟩

theorem sim_loop (cfg : Cfg) (auth : J) (w : Bool) {q : List Ns} (nss : List Ns) :
    ∀ {c : Cli} {v v' : View} {rs : List (List Ev)} {t : List Note},
    R (.win w) q c v → specLoop w v nss rs = some (v', t) →
    R (.win w) q (connectLoop cfg auth c nss rs).1 v' ∧ notes (connectLoop cfg auth c nss rs).2 = t
      ∧ Bal v t v' := by
  induction nss with
  | nil => intro c v v' rs t h hs; cases hs; exact ⟨h, rfl, .refl v⟩
  | cons n ns ih =>
    intro c v v' rs t h hs
    obtain ⟨v1, t1, t2, h1, h2, rfl⟩ := specLoop_cons hs
    obtain ⟨hR1, hn1, hb1⟩ := sim_evs cfg (rs.headD []) h h1
    obtain ⟨hR2, hn2, hb2⟩ := ih hR1 h2
    simp only [connectLoop, h.eio_win, if_true]
    exact ⟨hR2, by rw [notes_cons_other, notes_append, hn1, hn2], hb1.trans hb2⟩

/-- the test of the wait loop, `set(self.namespaces) == set(self.connection_namespaces)`, decides
    exactly "every requested namespace was accepted" -/
theorem sameSet_decision {w : Bool} {q : List Ns} {c : Cli} {v : View} (h : R (.win w) q c v) :
    sameSet (c.namespaces.map (·.1)) q = (v.asked.isEmpty && v.ref.isEmpty) := by
  unfold sameSet
  -- a namespace still asked for, or refused, is requested and not in the client's map
  have missing : ∀ n, n ∈ v.asked ∨ n ∈ v.ref →
      (q.all fun x => (c.namespaces.map (·.1)).contains x) = false := fun n hn => by
    obtain ⟨hq, hk⟩ := h.pending n hn
    refine List.all_eq_false.mpr ⟨n, hq, ?_⟩
    simp only [List.contains_iff_mem, ← hasKey_iff_mem_keys]
    exact ne_true_of_eq_false (h.not_hasNs hk)
  cases ha : v.asked with
  | cons a l => rw [missing a (.inl (ha ▸ List.mem_cons_self)), Bool.and_false]; rfl
  | nil =>
    cases hr : v.ref with
    | cons a l => rw [missing a (.inr (hr ▸ List.mem_cons_self)), Bool.and_false]; rfl
    | nil =>
      rw [h.ns1 (by rw [hr]; nofun)]
      simp only [List.isEmpty_nil, Bool.and_self, Bool.and_eq_true, List.all_eq_true, List.contains_iff_mem]
      refine ⟨fun x hx => ?_, fun x hx => ?_⟩
      · obtain ⟨e, he, rfl⟩ := List.mem_map.mp hx
        exact h.acc_sub e he
      · rcases h.covered nofun x hx with h1 | h1 | h1
        · rw [ha] at h1; cases h1
        · rw [hr] at h1; cases h1
        · exact hasKey_iff_mem_keys.mp h1

/-- the window opens: `eio.connect()` succeeded, `_handle_eio_connect` is about to send -/
theorem R_open {q : List Ns} {c : Cli} (h : R .live q c View.down)
    (nss : List Ns) (hne : nss ≠ []) (w : Bool) (es : Str) :
    R (.win w) nss (c.opened nss es) { up := true, esid := some es, asked := nss } :=
  ⟨{ eio := rfl
     conn := by simpa [View.down] using h.conn_live
     ns1 := fun _ => rfl
     ns2 := fun _ he => nomatch he
     sid := rfl
     bin := h.bin
     idle := nofun },
   by constructor <;> simp [hasKey, hne]⟩

theorem R.close {w : Bool} {q : List Ns} {c : Cli} {v : View} (h : R (.win w) q c v)
    (hroot : root ∉ v.ref) : R .live q { c with connected := true } v :=
  ⟨{ h.toMirror with conn := by simp [h.winup nofun] }, h.toVInv.close hroot⟩

theorem sim_emitCore (cfg : Cfg) {q : List Ns} {c : Cli} {v : View} {v' : View} {t : List Note} (ev : Str)
    (d : Data) (ns : Option Ns) (cb : Option Cb) (reacts : List Ev)
    (h : R .live q c v)
    (hs : (if hasKey v.acc (nsOr ns) then specEvs .live v reacts else some (v, [])) = some (v', t)) :
    R .live q (emitCore cfg c ev d ns cb reacts).1 v'
    ∧ notes (emitCore cfg c ev d ns cb reacts).2.1 = t ∧ Bal v t v' := by
  have hns : hasNs c (nsOr ns) = hasKey v.acc (nsOr ns) := by rw [hasNs, h.ns_live]
  refine emitCore_cases (P := fun r => R .live q r.1 v' ∧ notes r.2.1 = t ∧ Bal v t v') cfg c ev d ns cb reacts
    (fun hn => ?_) (fun _ hn _ => ?_) fun hn he => ?_
  · rw [← hns, hn] at hs; cases hs
    exact ⟨h, rfl, .refl v⟩
  · rw [← hns, hn, if_pos rfl] at hs
    have hR0 : R .live q (c.registered (nsOr ns) cb) v := by
      cases cb with
      | none => exact h
      | some k => exact ⟨h.toMirror.setCbs (h.up_of_hasKey (hns ▸ hn)), h.toVInv⟩
    obtain ⟨hR, hn, hb⟩ := sim_evs cfg reacts hR0 hs
    exact ⟨hR, by rw [notes_cons_other, hn], hb⟩
  · -- a connected namespace means the transport is up
    exact absurd (by cases cb <;> exact h.eio_up (h.up_of_hasKey (hns ▸ hn))) he

theorem sim_emit (cfg : Cfg) {q : List Ns} {c : Cli} {v : View} {v' : View} {t : List Note} (ev : Str)
    (d : Data) (ns : Option Ns) (cb : Option Cb) (reacts : List Ev) (h : R .live q c v)
    (hs : (if hasKey v.acc (nsOr ns) then specEvs .live v reacts else some (v, [])) = some (v', t)) :
    R .live q (emit cfg c ev d ns cb reacts).1 v' ∧ notes (emit cfg c ev d ns cb reacts).2 = t
      ∧ Bal v t v' := by
  obtain ⟨hR, hn, hb⟩ := sim_emitCore cfg ev d ns cb reacts h hs
  refine ⟨hR, ?_, hb⟩
  simp only [emit]
  split <;> simp [hn]

theorem sim_api_disconnect (cfg : Cfg) {q : List Ns} {c : Cli} {v : View} (h : R .live q c v) :
    R .live q (apiDisconnect cfg c).1 View.down
    ∧ notes (apiDisconnect cfg c).2 = v.acc.map (fun e => Note.ended e.1) := by
  cases hup : v.up with
  | true =>
    obtain ⟨hR, hn⟩ := sim_end cfg rClient h hup
    simp only [apiDisconnect, eioDisconnect, h.eio_up hup, if_true]
    exact ⟨hR, by rw [notes_append, notes_flatMap_sendPkt, notes_cons_other, hn]; rfl⟩
  | false =>
    have heio := h.eio_down hup
    obtain rfl := h.down hup
    have hn : c.namespaces = [] := h.ns_live
    simpa [apiDisconnect, eioDisconnect, heio, hn, View.down] using h

/-- `self.disconnect(); self.namespaces = {}` on the failure path of `connect(wait=True)`: nothing
    of the connection is left, and the application is told nothing -/
theorem sim_fail (cfg : Cfg) {w : Bool} {q : List Ns} {c : Cli} {v : View} (h : R (.win w) q c v) :
    Mirror .live { (apiDisconnect cfg c).1 with namespaces := [] } View.down
    ∧ notes (apiDisconnect cfg c).2 = [] := by
  have hc : c.connected = false := by simpa using h.conn
  constructor
  · constructor <;> simp [apiDisconnect, eioDisconnect, onEioDisconnect, h.eio_win, hc, View.down]
  · simp [apiDisconnect, eioDisconnect, onEioDisconnect, h.eio_win, hc, notes_flatMap_sendPkt]

theorem notes_authCall (b : Bool) : notes (if b = true then [Out.authCall] else []) = [] := by
  split <;> rfl

theorem sim_connect_step (cfg : Cfg) {q : List Ns} {c : Cli} {v : View} {v' : View} {t : List Note}
    (strict : Bool) (nss : List Ns) (auth : Auth) (wait : Bool) (oc : Outcome) (reacts : List (List Ev))
    (h : R .live q c v) (hs : specStep strict v (.connect nss auth wait oc reacts) = some (v', t)) :
    ∃ q', R .live q' (connect cfg c nss auth wait oc reacts).1 v'
      ∧ notes (connect cfg c nss auth wait oc reacts).2 = t ∧ (strict = true → Bal v t v') := by
  simp only [specStep] at hs
  cases hup : v.up with
  | true =>
    rw [hup, if_pos rfl] at hs; cases hs
    rw [connect, if_pos (h.conn_live.trans hup)]
    exact ⟨q, h, rfl, fun _ => .refl v⟩
  | false =>
    rw [hup, if_neg nofun] at hs
    obtain rfl := h.down hup
    have hc : c.connected = false := h.conn_live.trans hup
    have heio := h.eio_down hup
    cases oc with
    | refuse arg =>
      cases hs
      refine ⟨q, ?_⟩
      rw [connect_refuse cfg c nss auth wait arg reacts hc heio]
      exact ⟨⟨{ h.toMirror with ns1 := fun _ => rfl, ns2 := fun _ he => nomatch he },
        h.toVInv⟩, by simp [notes_refuse],
        fun _ => .of_acc rfl fun n => by simp [cntA, cntE, List.count_eq_zero]⟩
    | accept es =>
      simp only at hs
      split at hs
      · cases hs
      · rename_i hne
        split at hs
        · cases hs
        · rename_i v1 t1 hl
          obtain ⟨hR1, hn1, hb1⟩ :=
            sim_loop cfg auth.real wait nss (R_open h nss (by simpa using hne) wait es) hl
          rw [connect_accept cfg c nss auth wait es reacts hc heio]
          simp only [sameSet_decision hR1]
          split at hs
          · rename_i hfail
            -- `ConnectionError`: the client is fully disconnected again
            split at hs
            · cases hs
            · rename_i hst
              cases hs
              rw [if_pos hfail]
              obtain ⟨hm, hn0⟩ := sim_fail cfg hR1
              exact ⟨nss, ⟨hm, VInv_down nss⟩, by simp [notes_authCall, hn1, hn0], fun h' => absurd h' hst⟩
          · rename_i hok
            cases hs
            rw [if_neg hok]
            exact ⟨nss, hR1.close (specStep_window_ok hok hR1.toVInv), by simp [notes_authCall, hn1],
              fun _ => hb1⟩

theorem sim_step (cfg : Cfg) {q : List Ns} {c : Cli} {v : View} {v' : View} {t : List Note} (strict : Bool)
    {i : Input} (h : R .live q c v) (hs : specStep strict v i = some (v', t)) :
    ∃ q', R .live q' (step cfg c i).1 v' ∧ notes (step cfg c i).2 = t ∧ (strict = true → Bal v t v') := by
  cases i with
  | connect nss auth wait oc reacts => exact sim_connect_step cfg strict nss auth wait oc reacts h hs
  | emit ev d ns cb reacts =>
    obtain ⟨hR, hn, hb⟩ := sim_emit cfg ev d ns cb reacts h hs
    exact ⟨q, hR, hn, fun _ => hb⟩
  | send d ns cb reacts =>
    obtain ⟨hR, hn, hb⟩ := sim_emit cfg sMessage d ns cb reacts h hs
    exact ⟨q, hR, hn, fun _ => hb⟩
  | call ev d ns tok reacts =>
    obtain ⟨hR, hn, hb⟩ := sim_emitCore cfg ev d ns (some ⟨tok, .call⟩) reacts h hs
    refine ⟨q, ?_⟩
    simp only [step, call]
    split
    · exact ⟨hR, hn, fun _ => hb⟩
    · split <;> exact ⟨hR, by simp [hn], fun _ => hb⟩
  | disconnect =>
    cases hs
    obtain ⟨hR, hn⟩ := sim_api_disconnect cfg h
    exact ⟨q, hR, by simp [step, hn], fun _ => .endAll h.toVInv⟩
  | ev e =>
    obtain ⟨hR, hn, hb⟩ := sim_ev cfg h hs
    exact ⟨q, hR, hn, fun _ => hb⟩

/-- **Simulation.** Along every history inside the quantifier, the client model stays related to the
    server's view and produces exactly the notifications the view requires; when every
    `connect(wait=True)` was fully accepted (`strict`) these are balanced. -/
theorem sim_run (cfg : Cfg) (strict : Bool) (is : List Input) :
    ∀ {q : List Ns} {c : Cli} {v v' : View} {t : List Note},
    R .live q c v → specRun strict v is = some (v', t) →
    ∃ q', R .live q' (run cfg c is).1 v' ∧ notes (run cfg c is).2 = t ∧ (strict = true → Bal v t v') := by
  induction is with
  | nil => intro q c v v' t h hs; cases hs; exact ⟨q, h, rfl, fun _ => .refl v⟩
  | cons i is ih =>
    intro q c v v' t h hs
    obtain ⟨v1, t1, t2, h1, h2, rfl⟩ := specRun_cons hs
    obtain ⟨q1, hR1, hn1, hb1⟩ := sim_step cfg strict h h1
    obtain ⟨q2, hR2, hn2, hb2⟩ := ih hR1 h2
    exact ⟨q2, hR2, by rw [run, notes_append, hn1, hn2], fun hst => (hb1 hst).trans (hb2 hst)⟩

end Sio.Client
