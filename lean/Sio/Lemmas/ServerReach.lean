/-
  K4 — the *primitive* state changes of which every handler is composed, and `Reach`: finitely many
  of them, each made from a well-formed state.  A property of states (or a transitive relation
  between states) that every primitive change respects holds along every `Reach` — one case
  analysis over the primitives instead of one over all handlers.
-/
import Sio.Lemmas.ServerInv
namespace Sio.Server
open Sio.Rooms

/-- The primitive state changes of the server core.  `core` and `disc` fix the new state only up to
    `core`, i.e. up to the script counters and the queue of background handlers. -/
inductive Prim : Srv → Srv → Prop where
  /-- only script counters and queued handlers change -/
  | core {s s' : Srv} : core s' = core s → Prim s s'
  /-- `call()` numbers its internal callback -/
  | bumpCall {s : Srv} : Prim s { s with nCall := s.nCall + 1 }
  /-- the internal callback of a `call()` delivers its result -/
  | callDone {s : Srv} {sid : Sid} {i n : Nat} (args : List J) : (sid, i, CbTok.call n) ∈ s.cbs →
      Prim s { s with callDone := s.callDone ++ [(n, args)] }
  /-- `manager.connect`: a fresh session id is allocated and registered -/
  | connect {s : Srv} {ns : Ns} {t : Eio} {rooms' : Rooms.St} :
      Rooms.connect s.rooms ns t (sidName s.nextSid) = some rooms' → Prim s (connected s rooms')
  /-- `basic_disconnect` of a session that is in room `None` of `ns` -/
  | disc {s s' : Srv} {sid : Sid} {ns : Ns} {t : Eio} :
      eioOf s.rooms ns sid = some t →
      core s' = core { mgrDisconnect s sid ns with pending := [] } → Prim s s'
  /-- callbacks are popped -/
  | cbsFilter {s : Srv} (f : Sid × Nat × CbTok → Bool) : Prim s { s with cbs := s.cbs.filter f }
  /-- a callback is registered for a connected session -/
  | addCb {s : Srv} {sid : Sid} (tok : CbTok) : sidLive s.rooms sid →
      (∀ n, tok = .call n → n < s.nCall) → Prim s (addCb s sid tok)
  /-- the buffer of partially received packets changes -/
  | binbuf {s : Srv} {b : List (Eio × Partial)} : (b.map (·.1)).Nodup → Prim s { s with binbuf := b }
  /-- rooms other than `None` change -/
  | rooms {s : Srv} {r : Rooms.St} : Inv r →
      (∀ e ∈ r, ∃ e' ∈ s.rooms, e'.sid = e.sid ∧ e'.ns = e.ns ∧ e'.eio = e.eio) →
      (∀ e ∈ s.rooms, e.room = none → e ∈ r) → Prim s { s with rooms := r }
  /-- a user session is stored on an open socket -/
  | sess {s : Srv} {t : Eio} (ns : Ns) (v : J) : t ∈ s.socks → Prim s (sessSet s t ns v)
  /-- engine.io reports a new socket -/
  | eioConnect {s : Srv} (t : Eio) :
      Prim s { s with environ := s.environ ++ [t], socks := s.socks ++ [t] }
  /-- the per-transport cleanup at the end of `_handle_eio_disconnect` -/
  | drop {s : Srv} (t : Eio) : Prim s (dropTransport s t)

theorem Prim.wf {s s' : Srv} (p : Prim s s') (h : WF s) : WF s' := by
  cases p with
  | core hc => exact h.of_core hc
  | bumpCall => exact ⟨h.toWF0.congr rfl, h.pendingNil⟩
  | callDone args _ => exact ⟨h.toWF0.congr rfl, h.pendingNil⟩
  | connect hc => exact ⟨h.toWF0.connected hc, h.pendingNil⟩
  | disc he hc =>
    rename_i sid ns t
    have h1 : WF { mgrDisconnect s sid ns with pending := [] } :=
      ⟨(h.toWF0.mgrDisconnect sid ns).congr rfl, rfl⟩
    exact h1.of_core hc
  | cbsFilter f => exact ⟨h.toWF0.set_cbs_filter f, h.pendingNil⟩
  | addCb tok hl _ => exact ⟨h.toWF0.addCb hl tok, h.pendingNil⟩
  | binbuf hb => exact ⟨h.toWF0.set_binbuf hb, h.pendingNil⟩
  | rooms hi hsub hkeep => exact ⟨h.toWF0.set_rooms ⟨hi, hsub, hkeep⟩, h.pendingNil⟩
  | sess ns v ht => exact h.sessSet ht ns v
  | eioConnect t => exact ⟨h.toWF0.eioConnect t, h.pendingNil⟩
  | drop t => exact ⟨h.toWF0.dropTransport t, h.pendingNil⟩

theorem sidLive_connected {s : Srv} {ns : Ns} {t : Eio} {rooms' : Rooms.St} {sid : Sid}
    (hc : Rooms.connect s.rooms ns t (sidName s.nextSid) = some rooms') (hl : sidLive rooms' sid) :
    sidLive s.rooms sid ∨ sid = sidName s.nextSid := by
  obtain ⟨n, e, he⟩ := hl
  rcases (mem_connect hc _).mp he with h1 | h1 | h1
  · exact Or.inl ⟨n, e, h1⟩
  · right; exact (Entry.mk.inj h1).2.2.1
  · cases (Entry.mk.inj h1).2.1

theorem sidLive_disconnect_imp {r : Rooms.St} {ns : Ns} {sid sid' : Sid}
    (hl : sidLive (Rooms.disconnect r ns sid) sid') : sidLive r sid' := by
  obtain ⟨n, e, he⟩ := hl
  exact ⟨n, e, (List.mem_filter.mp he).1⟩

/-- session ids are allocated in order, and one that was allocated and is connected after a
    primitive change was connected before it: ids are never reused -/
theorem Prim.live {s s' : Srv} (hw : WF s) (p : Prim s s') :
    s.nextSid ≤ s'.nextSid ∧
      ∀ k, k < s.nextSid → sidLive s'.rooms (sidName k) → sidLive s.rooms (sidName k) := by
  cases p with
  | core hc =>
    have f := core_fields hc
    exact ⟨Nat.le_of_eq f.nextSid.symm, fun _ _ hl => f.rooms ▸ hl⟩
  | connect hc =>
    refine ⟨Nat.le_succ _, fun k hk hl => (sidLive_connected hc hl).resolve_right fun h1 => ?_⟩
    have := sidName_inj h1; omega
  | disc _ hc =>
    have f := core_fields hc
    refine ⟨Nat.le_of_eq f.nextSid.symm, fun _ _ hl => ?_⟩
    rw [f.rooms] at hl
    exact sidLive_disconnect_imp hl
  | rooms _ hsub _ =>
    refine ⟨Nat.le_refl _, fun k _ ⟨_, _, he⟩ => ?_⟩
    obtain ⟨e', he', h1, _⟩ := hsub _ he
    have := sidLive_of_mem hw.rooms he'
    rw [h1] at this; exact this
  | sess ns v _ => rw [sessSet_eq]; exact ⟨Nat.le_refl _, fun _ _ hl => hl⟩
  | bumpCall | callDone _ _ | cbsFilter _ | addCb _ _ _ | binbuf _ | eioConnect _ | drop _ =>
    exact ⟨Nat.le_refl _, fun _ _ hl => hl⟩

theorem Prim.roomsStep {s : Srv} {r : Rooms.St} (hr : RoomsStep s.rooms r) :
    Prim s { s with rooms := r } := .rooms hr.inv hr.sub hr.keep

theorem Prim.closeRoom {s : Srv} (h : WF s) (ns : Ns) (room : Room) :
    Prim s { s with rooms := Rooms.closeRoom s.rooms ns room } :=
  .roomsStep (.closeRoom h.rooms ns room)

/-- finitely many primitive changes, each from a well-formed state -/
inductive Reach : Srv → Srv → Prop where
  | refl (s : Srv) : Reach s s
  | tail {s s₁ s₂ : Srv} : Reach s s₁ → WF s₁ → Prim s₁ s₂ → Reach s s₂

theorem Reach.trans {a b c : Srv} (h1 : Reach a b) (h2 : Reach b c) : Reach a c := by
  induction h2 with
  | refl => exact h1
  | tail _ hw hp ih => exact Reach.tail ih hw hp

theorem Reach.one {s s' : Srv} (h : WF s) (p : Prim s s') : Reach s s' :=
  Reach.tail (Reach.refl s) h p

theorem Reach.preserve {P : Srv → Prop} (hP : ∀ s s', WF s → Prim s s' → P s → P s')
    {s s' : Srv} (r : Reach s s') (h : P s) : P s' := by
  induction r with
  | refl => exact h
  | tail _ hw hp ih => exact hP _ _ hw hp ih

theorem Reach.wf {s s' : Srv} (r : Reach s s') (h : WF s) : WF s' :=
  r.preserve (fun _ _ hw hp _ => hp.wf hw) h

theorem Reach.rel {R : Srv → Srv → Prop} (hrefl : ∀ s, R s s)
    (htrans : ∀ a b c, R a b → R b c → R a c) (hP : ∀ s s', WF s → Prim s s' → R s s')
    {s s' : Srv} (r : Reach s s') : R s s' := by
  induction r with
  | refl => exact hrefl _
  | tail _ hw hp ih => exact htrans _ _ _ ih (hP _ _ hw hp)

end Sio.Server
