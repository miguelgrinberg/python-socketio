/-
  C15 — The pub/sub listener survives anything that arrives on the channel.

  Model: `Sio/Model/PubSub.lean` — `listen` (the `for message in self._listen()` loop of
  `PubSubManager._thread` / `AsyncPubSubManager._thread` with both `except` clauses), `listenStep`
  (one iteration: decoding fallbacks, the pre-dispatch test, the per-message `try`), `dispatch`
  (the `_handle_*` methods on a decoded dict whose fields arrive classified), `retryRun`
  (`_redis_listen_with_retries`).  The statements quantify over every stream of entries, every
  host state and every classified message; nothing is bounded.
-/
import Sio.Lemmas.PubSubListen
namespace Sio.C15
open Sio.PubSub Sio.Rooms

/-! ## Vocabulary -/

/-- no entry of the stream makes application code raise a `BaseException` that is not an
    `Exception` (`SystemExit`, `KeyboardInterrupt`, task cancellation: by design the way out) -/
def NoFatal (es : List Item) : Prop := ∀ e ∈ es, e.fault ≠ .fatal

/-- the result of processing nothing -/
def idle (h : Host) : LRes := { h := h }

/-! ## A host and a stream used for the non-vacuity examples

`hA` has one client `s0` (transport `t0`) in room `r`, and an outstanding user callback 7 under
key `s0`, id 1 (what `emit(..., to='s0', callback=cb)` leaves).  -/

def hidA : HostId := ['h', 'A']
def hidB : HostId := ['h', 'B']
def nsR : Ns := ['/']
def s0 : Sid := ['s', '0']
def t0 : Eio := ['t', '0']
def rR : Room := ['r']

def hA : Host :=
  { id := hidA,
    rooms := [⟨nsR, none, s0, t0⟩, ⟨nsR, some s0, s0, t0⟩, ⟨nsR, some rR, s0, t0⟩],
    cbs := fun k i => if k = s0 ∧ i = 1 then some (.user 7) else none,
    ctr := fun k => if k = s0 then 1 else 0 }

/-- a valid emit to room `r` published by host B -/
def goodEmit : DMsg := (Msg.emit hidB ['e'] .none nsR (.one rR) .none none).toD
/-- the acknowledgement of callback (s0, 1), addressed to host A -/
def goodCallback : DMsg := (Msg.callback (some hidA) s0 nsR 1 [.int 5]).toD
/-- the same acknowledgement addressed to host B -/
def foreignCallback : DMsg := (Msg.callback (some hidB) s0 nsR 1 [.int 5]).toD
/-- host A's own emit coming back -/
def ownEcho : DMsg := (Msg.emit hidA ['e'] .none nsR (.one rR) .none none).toD
/-- an emit whose `callback` field has no `len()` -/
def badEmit : DMsg := { goodEmit with cb := .noLen }

def entry (m : DMsg) (f : Fault := .none) : Item := { raw := .bytes (.dict m) .none, fault := f }

def garbage : List Item :=
  [ { raw := .bytes .none .none },              -- random bytes: neither pickle nor JSON
    { raw := .bytes .none (.seq false) },       -- JSON of a list
    { raw := .bytes .scalar .none },            -- pickle of 42: `'method' in 42` raises
    { raw := .text (.seq true) },               -- the string "method": `data['method']` raises
    { raw := .listenRaises },
    entry badEmit, entry ownEcho, entry foreignCallback,
    entry { goodEmit with method := some ['n', 'o', 'p', 'e'] } ]

/-! ## never_dies -/

/-- Whatever arrives — undecodable bytes, values of any type, dicts with any fields, handlers and
    application code raising any `Exception`, the iterator raising — the loop is still running
    after it. -/
theorem never_dies (h : Host) (es : List Item) (hn : NoFatal es) : (listen h es).alive = true := by
  induction es generalizing h with
  | nil => rfl
  | cons e es ih =>
    rw [listen_cons, if_pos (listenStep_alive (hn e List.mem_cons_self))]
    exact ih _ (fun x hx => hn x (List.mem_cons_of_mem _ hx))

/-- the only exit: application code raised a `BaseException` that is not an `Exception` -/
theorem dies_only_fatal {h : Host} {e : Item} (hd : (listenStep h e).alive = false) :
    e.fault = .fatal := listenStep_dies hd

example : NoFatal garbage := by unfold NoFatal; decide
example : (listen hA garbage).alive = true := never_dies _ _ (by unfold NoFatal; decide)
-- the hypothesis is needed: a callback that raises SystemExit ends the listener
example : (listen hA [entry goodCallback .fatal, entry goodEmit]).alive = false := by decide +kernel
example : (listen hA [entry goodCallback .fatal, entry goodEmit]).outs.length = 1 := by decide +kernel

/-! ## continues -/

/-- Fold law: after any prefix and any entry `m`, the rest of the stream is processed from the
    state that `m` left — completely, and with nothing else changed. -/
theorem continues (h : Host) (pre post : List Item) (m : Item) (hpre : NoFatal pre)
    (hm : m.fault ≠ .fatal) :
    listen h (pre ++ m :: post) =
      ((listen h pre).andThen (listenStep (listen h pre).h m)).andThen
        (listen (listenStep (listen h pre).h m).h post) := by
  rw [listen_append h pre _ (never_dies h pre hpre), listen_cons, if_pos (listenStep_alive hm),
    LRes.andThen_assoc]

/-- In particular every later entry takes effect: the final state is the one reached by running
    `post` after `m`. -/
theorem continues_state (h : Host) (pre post : List Item) (m : Item) (hpre : NoFatal pre)
    (hm : m.fault ≠ .fatal) :
    (listen h (pre ++ m :: post)).h = (listen (listenStep (listen h pre).h m).h post).h := by
  rw [continues h pre post m hpre hm]; rfl

/-- An entry that leaves the state alone (garbage) can be deleted from the stream: the state at the
    end, and what the remaining entries output, are those of the stream without it.  (This is the
    oracle of the check: run with and without the garbage.) -/
theorem inert_removable (h : Host) (pre post : List Item) (m : Item) (hpre : NoFatal pre)
    (hm : m.fault ≠ .fatal) (hin : (listenStep (listen h pre).h m).h = (listen h pre).h) :
    (listen h (pre ++ m :: post)).h = (listen h (pre ++ post)).h ∧
    (listen h (pre ++ m :: post)).alive = (listen h (pre ++ post)).alive ∧
    (listen h (pre ++ m :: post)).outs =
      (listen h pre).outs ++ (listenStep (listen h pre).h m).outs ++
        (listen (listen h pre).h post).outs ∧
    (listen h (pre ++ post)).outs = (listen h pre).outs ++ (listen (listen h pre).h post).outs := by
  rw [continues h pre post m hpre hm, listen_append h pre post (never_dies h pre hpre), hin]
  exact ⟨rfl, rfl, rfl, rfl⟩

example : (listen hA (garbage ++ [entry goodEmit])).outs.filter isCallbackOut = [] := by decide +kernel
example : (listen hA (garbage ++ [entry goodEmit])).h.rooms = hA.rooms := by decide +kernel
-- the valid emit after nine pieces of garbage reaches the client
example : ((listen hA (garbage ++ [entry goodEmit])).outs.getLast?).isSome = true := by decide +kernel

/-! ## what is inert -/

/-- Undecodable bytes, falsy values, containers without `'method'`: nothing happens at all. -/
theorem undecodable_inert (h : Host) (raw : Raw) (f : Fault)
    (hs : preDispatch (decode raw) = .skip) (hr : raw ≠ .listenRaises) :
    listenStep h ⟨raw, f⟩ = idle h := by
  unfold listenStep
  split
  · rename_i heq; exact absurd heq hr
  · simp only [hs]; rfl

/-- Truthy values for which the test `'method' in data` or the debug line `data['method']` raises
    (numbers, the string "…method…", a list containing "method"): the exception escapes the
    per-message `try`, the OUTER handler logs it, `_listen()` is called again; state untouched. -/
theorem boom_restarts (h : Host) (raw : Raw) (f : Fault)
    (hs : preDispatch (decode raw) = .boom) (hr : raw ≠ .listenRaises) :
    listenStep h ⟨raw, f⟩ = { h := h, outs := [.restarted h.id] } := by
  unfold listenStep
  split
  · rename_i heq; exact absurd heq hr
  · simp only [hs]

/-- The iterator itself raising: same containment. -/
theorem listen_raises_restarts (h : Host) (f : Fault) :
    listenStep h ⟨.listenRaises, f⟩ = { h := h, outs := [.restarted h.id] } := rfl

def knownMethods : List Str := [mCallback, mEmit, mDisconnect, mEnterRoom, mLeaveRoom, mCloseRoom]

/-- A dict with an unknown (or non-string) method. -/
theorem unknown_method_inert (h : Host) (m : DMsg)
    (hu : ∀ s ∈ knownMethods, m.method ≠ some s) : dispatch h m = { h := h } := by
  simp only [knownMethods, List.forall_mem_cons] at hu
  simp [dispatch, hu]

/-- **A server never re-applies a message it published itself**: whatever the method (other than
    `callback`) and whatever the fields, a dict that carries this host's id does nothing. -/
theorem no_self_apply (h : Host) (m : DMsg) (hown : m.hostId = some h.id)
    (hm : m.method ≠ some mCallback) : dispatch h m = { h := h } := dispatch_own h m hown hm

/-- ... also with the application scripted to fail, at the level of the loop -/
theorem no_self_apply_step (h : Host) (m : DMsg) (f : Fault) (hown : m.hostId = some h.id)
    (hm : m.method ≠ some mCallback) (j : Decoded) :
    listenStep h ⟨.dict (.dict m), f⟩ = idle h ∧
    listenStep h ⟨.bytes (.dict m) j, f⟩ = idle h ∧
    listenStep h ⟨.bytes .none (.dict m), f⟩ = idle h ∧
    listenStep h ⟨.text (.dict m), f⟩ = idle h := by
  have hd := no_self_apply h m hown hm
  have key : ∀ raw, raw ≠ Raw.listenRaises → decode raw = .dict m → listenStep h ⟨raw, f⟩ = idle h := by
    intro raw hr hdec
    rw [listenStep_dict raw hr hdec, dispatchF_eq_dispatch (fun hc => hc.2.2 hown) (fun _ => by rw [hd]), hd]
    rfl
  exact ⟨key _ nofun rfl, key _ nofun rfl, key _ nofun rfl, key _ nofun rfl⟩

/-- **An acknowledgement addressed to another server never completes a local callback**: a
    `callback` message whose `host_id` is not this host's does nothing, whatever ids it names —
    even ids of callbacks that are outstanding here. -/
theorem foreign_callback_inert (h : Host) (m : DMsg) (hm : m.method = some mCallback)
    (hf : m.hostId ≠ some h.id) : dispatch h m = { h := h } := by
  rw [dispatch_mCallback hm, handleCallback, if_neg hf]

theorem foreign_callback_inert_step (h : Host) (m : DMsg) (f : Fault)
    (hm : m.method = some mCallback) (hf : m.hostId ≠ some h.id) :
    listenStep h ⟨.bytes (.dict m) .none, f⟩ = idle h := by
  have hd := foreign_callback_inert h m hm hf
  have hne : m.method ≠ some mDisconnect :=
    fun he => method_ne.2.1.1 (Option.some.inj (he.symm.trans hm))
  rw [listenStep_dict (.bytes (.dict m) .none) nofun rfl, dispatchF_eq_dispatch (fun hc => hne hc.2.1) (fun _ => by rw [hd]), hd]
  rfl

/-- A `callback` for this host that names an unknown id (already answered, never issued, key of a
    client that is gone) is ignored. -/
theorem unknown_callback_inert (h : Host) (m : DMsg) (key : Str) (id : Nat)
    (hm : m.method = some mCallback) (hs : m.sid = .ok key) (hi : m.id = .ok id)
    (hn : h.cbs key id = none) : dispatch h m = { h := h } := by
  rw [dispatch_mCallback hm, handleCallback]
  split
  · rw [hs, hi]
    cases m.args <;> simp [trigger_absent hn]
  · rfl

-- non-vacuity: the callback (s0, 1) IS outstanding on hA; the same message completes it when it is
-- addressed to hA and does nothing when it is addressed to hB
example : (dispatch hA goodCallback).outs.length = 1 := by decide +kernel
example : ((dispatch hA goodCallback).h.cbs s0 1).isNone = true := by decide +kernel
example : ((dispatch hA foreignCallback).h.cbs s0 1).isSome = true := by
  rw [foreign_callback_inert hA foreignCallback rfl (by decide +kernel)]; decide +kernel
example : dispatch hA ownEcho = { h := hA } := no_self_apply hA ownEcho rfl (by decide +kernel)
-- ... while the same emit from another host is delivered
example : (dispatch hA goodEmit).outs.length = 1 := by decide +kernel

/-! ## error_is_noop -/

/-- A handler that fails, fails before it has done anything: the state is the one before the
    message, nothing was sent, nothing published.  The one exception is excluded by hypothesis: a
    `callback` message whose `args` cannot be unpacked (`callback(*args)` raises after
    `trigger_callback` has removed the entry). -/
theorem error_is_noop (h : Host) (m : DMsg) (e : Err) (herr : (dispatch h m).err = some e)
    (hargs : m.args ≠ .nonIterable) :
    (dispatch h m).h = h ∧ (dispatch h m).outs = [] ∧ (dispatch h m).pubs = [] := by
  rcases errNoop_dispatch h m hargs with hnone | hnoop
  · rw [hnone] at herr; cases herr
  · exact hnoop

/-- at the level of the loop: a contained handler error leaves the state alone and the loop alive -/
theorem error_is_noop_step (h : Host) (m : DMsg) (e : Err) (herr : (dispatch h m).err = some e)
    (hargs : m.args ≠ .nonIterable) (f : Fault) :
    (listenStep h ⟨.bytes (.dict m) .none, f⟩).h = h ∧
    (listenStep h ⟨.bytes (.dict m) .none, f⟩).alive = true ∧
    (listenStep h ⟨.bytes (.dict m) .none, f⟩).pubs = [] := by
  obtain ⟨h1, h2, h3⟩ := error_is_noop h m e herr hargs
  rw [listenStep_dict (.bytes (.dict m) .none) nofun rfl]
  by_cases hs : f = .srv ∧ m.method = some mDisconnect ∧ m.hostId ≠ some h.id
  · obtain ⟨rfl, hm, hf⟩ := hs
    rw [dispatchF_srv hm hf]
    exact ⟨rfl, rfl, rfl⟩
  · rw [dispatchF_eq_dispatch hs (fun hn => by rw [herr] at hn; cases hn), herr]
    exact ⟨h1, rfl, h3⟩

/-- `server.disconnect` itself failing (before it does anything): contained, state untouched -/
theorem server_failure_is_noop (h : Host) (m : DMsg) (hm : m.method = some mDisconnect)
    (hf : m.hostId ≠ some h.id) :
    listenStep h ⟨.bytes (.dict m) .none, .srv⟩ =
      { h := h, outs := [.handlerError h.id .other] } := by
  rw [listenStep_dict (.bytes (.dict m) .none) nofun rfl, dispatchF_srv hm hf]
  rfl

-- non-vacuity: `badEmit` fails with TypeError and is a no-op; a `callback` with non-iterable
-- arguments is the excluded case (the entry is gone although the callback never ran)
example : (dispatch hA badEmit).err = some .typeError := by decide +kernel
example : (dispatch hA badEmit).h.rooms = hA.rooms := by decide +kernel
example : (dispatch hA { goodCallback with args := .nonIterable }).err = some .typeError := by decide +kernel
example : ((dispatch hA { goodCallback with args := .nonIterable }).h.cbs s0 1).isNone = true := by
  decide +kernel

/-! ## surplus fields -/

/-- Fields a method does not read do not matter: e.g. an `enter_room` message may carry any
    `event`, `data`, `skip_sid`, `callback`, `id`, `args`. -/
theorem surplus_ignored_room_ops (h : Host) (m : DMsg) (ev : Option J) (d : Option Data) (sk : Skip)
    (cb : CbFld) (id : IdFld) (args : ArgsFld)
    (hm : m.method = some mEnterRoom ∨ m.method = some mLeaveRoom ∨ m.method = some mCloseRoom ∨
          m.method = some mDisconnect) :
    dispatch h { m with event := ev, data := d, skip := sk, cb := cb, id := id, args := args } =
      dispatch h m := by
  rcases hm with hm | hm | hm | hm <;>
    simp [dispatch, hm, handleEnterRoom, handleLeaveRoom, handleCloseRoom, handleDisconnect]

theorem surplus_ignored_emit (h : Host) (m : DMsg) (sid : Fld Str) (id : IdFld) (args : ArgsFld)
    (hm : m.method = some mEmit) :
    dispatch h { m with sid := sid, id := id, args := args } = dispatch h m := by
  simp [dispatch, hm, handleEmit]

/-! ## Redis: capped back-off, and nothing is lost -/

theorem min_double (a : Nat) : min (min a 60 * 2) 60 = min (a * 2) 60 := by
  rcases Nat.le_total a 60 with h | h
  · rw [Nat.min_eq_left h]
  · rw [Nat.min_eq_right h, Nat.min_eq_right (by omega), Nat.min_eq_right (by omega)]

/-- reconnecting keeps failing: from sleep `min (2 ^ j) 60` the sleeps double up to the cap -/
theorem backoff_from (k j : Nat) :
    (retryRun { retrySleep := min (2 ^ j) 60, connect := true } (List.replicate k .connectFails)).2.sleeps
      = (List.range' j k).map (fun i => min (2 ^ i) 60) := by
  induction k generalizing j with
  | zero => rfl
  | succ k ih =>
    simp only [List.replicate_succ, retryRun, retryPass, if_true, List.range'_succ, List.map_cons]
    rw [min_double, ← Nat.pow_succ, ih (j + 1)]
    rfl

/-- consecutive failures to reconnect, `k` of them, after the connection broke while listening:
    the sleeps are 1, 2, 4, …, capped at 60 -/
theorem backoff (n k : Nat) :
    (retryRun {} (.listenFails n :: List.replicate k .connectFails)).2.sleeps =
      (List.range (k + 1)).map (fun i => min (2 ^ i) 60) := by
  rw [List.range_eq_range', List.range'_succ, List.map_cons, ← backoff_from k 1]
  rfl

/-- a reconnection that succeeds puts the sleep back to 1 -/
theorem backoff_resets (s : Retry) (hc : s.connect = true) (n : Nat) :
    (retryPass s (.listenFails n)).2.2.1 = some 1 := by
  simp [retryPass, hc]

def Pass.msgs : Pass → Nat
  | .connectFails => 0
  | .listenFails n => n
  | .listenEnds n => n

/-- the retry generator never stops and never drops: every message that any `listen()` yields is
    yielded, whatever fails in between -/
theorem retry_yields_all (s : Retry) (ps : List Pass) :
    (retryRun s ps).2.yielded = (ps.map Pass.msgs).sum := by
  induction ps generalizing s with
  | nil => rfl
  | cons p ps ih =>
    simp only [retryRun, List.map_cons, List.sum_cons, ih]
    cases p <;> simp [retryPass, Pass.msgs]
    split <;> rfl

example : (retryRun {} (.listenFails 3 :: List.replicate 8 .connectFails)).2.sleeps
    = [1, 2, 4, 8, 16, 32, 60, 60, 60] := by decide +kernel
example : (retryRun {} [.listenFails 3, .connectFails, .connectFails, .listenFails 2, .connectFails]).2.sleeps
    = [1, 2, 4, 1, 2] := by decide +kernel

end Sio.C15
