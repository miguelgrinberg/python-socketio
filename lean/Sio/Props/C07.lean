/-
  C07 — Multi-host pub/sub: a cluster behaves like one server holding all clients.

  Model: `Sio/Model/PubSub.lean` — `Cluster` (hosts with their own room tables and callback tables,
  the ordered channel, one cursor per host, a write-only manager), `step` (the public methods of
  `PubSubManager` / `AsyncPubSubManager` as the server calls them, `deliver`, `drain`), `Single`
  (ONE server with a plain `Manager` holding all the clients).  Helper lemmas:
  `Sio/Lemmas/PubSub*.lean`.  Nothing is bounded: any number of hosts, clients, rooms, namespaces,
  histories of any length, any placement of clients on hosts.
-/
import Sio.Lemmas.PubSubSyncOps
import Sio.Lemmas.PubSubRunOps
import Sio.Lemmas.PubSubTokOps
import Sio.Lemmas.PubSubDeliver
import Sio.Lemmas.PubSubLinkedEmit
import Sio.Lemmas.PubSubLinkedHist
import Sio.Props.C03
namespace Sio.C07
open Sio.PubSub Sio.Rooms

/-! ## Vocabulary -/

/-- a placement: on which host every session id and every transport lives -/
structure Placement where
  home : Sid → HostId
  ehome : Eio → HostId

/-- every operation of the history names existing hosts, a `connect` happens where the placement
    says, emit targets are proper (`to=[]` is not a target), and an emit with a callback goes
    through a host and names one room -/
def OpsOk (p : Placement) (ids : List HostId) (ops : List PubSub.Op) : Prop :=
  ∀ op ∈ ops, OpOk p.home p.ehome ids op

/-- a fresh cluster: hosts without clients, an empty channel -/
def Cluster.init (ids : List HostId) (wo : HostId) : Cluster :=
  { hosts := ids.map (fun i => { id := i }), wo := { id := wo } }

def Single.init : Single := { srv := { id := [] } }

theorem init_ids (ids : List HostId) (wo : HostId) : (Cluster.init ids wo).hosts.map Host.id = ids := by
  simp only [Cluster.init, List.map_map]
  exact List.map_id' ids

theorem mem_init {ids : List HostId} {wo : HostId} {h : Host} (hh : h ∈ (Cluster.init ids wo).hosts) :
    ∃ i, h = { id := i } := by
  obtain ⟨i, _, rfl⟩ := List.mem_map.mp hh
  exact ⟨i, rfl⟩

theorem sim_init (p : Placement) (ids : List HostId) (wo : HostId) (hnd : ids.Nodup)
    (hwo : wo ∉ ids) : Sim p.home p.ehome (Cluster.init ids wo) Single.init := by
  have hids := init_ids ids wo
  have hviews : ∀ v ∈ (Cluster.init ids wo).views, v.2 = [] := by
    intro v hv
    simp only [Cluster.views, Cluster.init, List.map_map, List.mem_map] at hv
    obtain ⟨i, _, rfl⟩ := hv
    rfl
  refine ⟨⟨?_, ?_, ?_, ?_⟩, Inv.nil, ?_, ?_, EmitsOk.nil, ?_, rfl⟩
  · rw [views_fst, hids]; exact hnd
  · intro v hv; rw [hviews v hv]; exact Inv.nil
  · intro v hv e he; rw [hviews v hv] at he; cases he
  · intro v hv e he; rw [hviews v hv] at he; cases he
  · intro e
    constructor
    · intro he; cases he
    · rintro ⟨v, hv, he⟩; rw [hviews v hv] at he; cases he
  · intro h hh
    obtain ⟨i, rfl⟩ := mem_init hh
    exact ⟨Nat.le_refl _, AllCb.nil⟩
  · rw [hids]; exact hwo

/-! ## sync_equiv — immediate delivery: exact equivalence with one server -/

/-- **Frames and disconnects.**  From any pair of related states, for every history whose
    operations are each followed by a drain pass: every client receives exactly the packets (in
    its own order, ack ids abstracted to "asks for an acknowledgement") that it would receive
    from a single server holding all the clients, the same disconnect handlers run in the same
    order, and the states are related again — for every placement. -/
theorem sync_equiv_frames_from (p : Placement) (c : Cluster) (s : Single)
    (hs : Sim p.home p.ehome c s) (ops : List PubSub.Op)
    (hops : OpsOk p (c.hosts.map Host.id) ops) :
    (∀ x, seenBy x (runSync c ops).2 = seenBy x (Single.run s ops).2) ∧
    discEvents (runSync c ops).2 = discEvents (Single.run s ops).2 ∧
    Sim p.home p.ehome (runSync c ops).1 (Single.run s ops).1 := by
  induction ops generalizing c s with
  | nil => exact ⟨fun _ => rfl, rfl, hs⟩
  | cons op ops ih =>
    obtain ⟨hop, hops'⟩ := List.forall_mem_cons.1 hops
    rw [← views_fst] at hop
    obtain ⟨h1, h2, h3, h4⟩ := sim_step hs op hop
    rw [← h4] at hops'
    obtain ⟨i1, i2, i3⟩ := ih _ _ h1 hops'
    simp only [runSync, Single.run]
    refine ⟨fun x => ?_, ?_, i3⟩
    · rw [seenBy_append, seenBy_append x (s.step op).2, h2 x, i1 x]
    · rw [discEvents_append, discEvents_append (s.step op).2, h3, i2]

/-- ... in particular from the empty cluster against the empty server. -/
theorem sync_equiv_frames (p : Placement) (ids : List HostId) (wo : HostId) (hnd : ids.Nodup)
    (hwo : wo ∉ ids) (ops : List PubSub.Op) (hops : OpsOk p ids ops) (x : Sid) :
    seenBy x (runSync (Cluster.init ids wo) ops).2 = seenBy x (Single.run Single.init ops).2 ∧
    discEvents (runSync (Cluster.init ids wo) ops).2 = discEvents (Single.run Single.init ops).2 := by
  obtain ⟨h1, h2, _⟩ := sync_equiv_frames_from p _ _ (sim_init p ids wo hnd hwo) ops
    (by rw [init_ids]; exact hops)
  exact ⟨h1 x, h2⟩

/-- `sync_equiv` without the hypotheses on the history that the callback part needs (hence
    `_partial`): the per-client packet sequences (`seenBy`, ack ids abstracted to "asks for an
    acknowledgement") and the disconnect handlers (`discEvents`) of the cluster equal those of the
    single server, for every placement, every history with `OpsOk` alone, any number of hosts.
    The full statement of DESIGN §5 — `observe (runSync c ops) = observe (Single.run s ops)` with
    `observe` = per-client packet sequences + application events (callback invocations AND
    disconnect handlers) — is `sync_equiv` below; it needs `HistOk` in addition (fresh session ids;
    an emit with a callback addresses a personal room with nobody but its owner in it), without
    which the callback part is false (see `aliasOps`).  It is proved with the invariant
    `Sio.PubSub.Linked` between the drained cluster and the single server: same number of asks per
    client; for every outstanding ask of a connected client the single server's user callback entry
    exists iff the client's host has the relay entry AND the issuing host has the user entry it
    points at; `cbs k i ≠ none → i ≤ ctr k` and `asked ids ≤ ctr` on both sides
    (`Sio/Lemmas/PubSubLinked*.lean`, one lemma per operation kind, `linked_step`).  About callbacks
    under ANY schedule (not only immediate delivery) see `callback_once`,
    `callback_exactly_once_when_linked`, `callback_args_from_ack` / `callback_args_relayed`. -/
theorem sync_equiv_partial (p : Placement) (ids : List HostId) (wo : HostId) (hnd : ids.Nodup)
    (hwo : wo ∉ ids) (ops : List PubSub.Op) (hops : OpsOk p ids ops) (x : Sid) :
    seenBy x (runSync (Cluster.init ids wo) ops).2 = seenBy x (Single.run Single.init ops).2 ∧
    discEvents (runSync (Cluster.init ids wo) ops).2 = discEvents (Single.run Single.init ops).2 :=
  sync_equiv_frames p ids wo hnd hwo ops hops x


/-! ### sync_equiv — packets AND application events -/

theorem linked_init (home : Sid → HostId) (ids : List HostId) (wo : HostId) :
    Linked home (Cluster.init ids wo) Single.init := by
  refine ⟨?_, ?_, fun _ => rfl, ?_, ?_, ?_⟩
  · intro h hh
    obtain ⟨i, rfl⟩ := mem_init hh
    rfl
  · intro e₁ h1; cases h1
  · intro h hh k i hne
    obtain ⟨j, rfl⟩ := mem_init hh
    exact absurd rfl hne
  · intro k i hne; exact absurd rfl hne
  · rintro x ⟨e, he, _⟩; cases he

/-- From any pair of related states (`Sim`: the room tables of the hosts partition the single
    server's; `Linked`: the callback tables are linked, every host has drained), for every history
    whose operations are each followed by a drain pass and that respects `HistOk` on the way. -/
theorem sync_equiv_from (p : Placement) (c : Cluster) (s : Single)
    (hs : Sim p.home p.ehome c s) (hl : Linked p.home c s) (ops : List PubSub.Op)
    (hops : OpsOk p (c.hosts.map Host.id) ops) (hh : HistOk s ops) :
    (∀ x, seenBy x (runSync c ops).2 = seenBy x (Single.run s ops).2) ∧
    appEvents (runSync c ops).2 = appEvents (Single.run s ops).2 ∧
    Sim p.home p.ehome (runSync c ops).1 (Single.run s ops).1 ∧
    Linked p.home (runSync c ops).1 (Single.run s ops).1 := by
  induction ops generalizing c s with
  | nil => exact ⟨fun _ => rfl, rfl, hs, hl⟩
  | cons op ops ih =>
    obtain ⟨hop, hops'⟩ := List.forall_mem_cons.1 hops
    rw [← views_fst] at hop
    obtain ⟨h1, h2, h3, h4⟩ := sim_step hs op hop
    obtain ⟨l1, l2, l3⟩ := linked_step hs hl op hop hh.1
    rw [← h4] at hops'
    obtain ⟨i1, i2, i3, i4⟩ := ih _ _ h1 l1 hops' hh.2
    simp only [runSync, Single.run]
    refine ⟨fun x => ?_, ?_, i3, i4⟩
    · rw [seenBy_append, seenBy_append x (s.step op).2, h2 x, i1 x]
    · rw [appEvents_append, appEvents_append (s.step op).2, appEvents_eq h3 l2 l3, i2]

/-- **A pub/sub cluster with immediate delivery behaves like one server holding all the clients.**
    For every placement of clients (and transports) on hosts, any number of hosts with distinct ids,
    a write-only manager with its own id, and every history `ops` — `connect`, `enter_room`,
    `leave_room`, `close_room`, `emit` through a host or through the write-only manager (any target,
    any `skip_sid`, with or without a callback), `disconnect`, client ACKs by position (any position,
    also out of range, repeated, of a client that is gone), each operation followed by one drain
    pass — the cluster and the single server are observably equal:

    * every client receives the same packets in the same order (`seenBy`; ack ids are abstracted to
      "asks for an acknowledgement" — the ids themselves differ, by design: the cluster's client is
      handed the id of the relay entry on its own host);
    * the application sees the same events in the same order (`appEvents`): every callback
      invocation with its token and the arguments the client sent, and every disconnect handler.

    Hypotheses: `OpsOk` (the operations name existing hosts, a `connect` happens where the placement
    says, `to=[]` is no target, an emit with a callback goes through a host and names one room) and
    `HistOk` (decidable, judged on the run of the reference server): session ids are fresh — a
    `connect` brings an id that is not in use and was never asked anything — and, at the moment of
    an emit with a callback, nobody but the client of that name is in the addressed (personal) room
    ("callback functions can only be used when addressing an individual client").  Both are what the
    quantifier of C07 says (`harness/props/c07.py: in_domain`); without the second the statement is
    false (one user callback on the cluster, one per recipient on the single server). -/
theorem sync_equiv (p : Placement) (ids : List HostId) (wo : HostId) (hnd : ids.Nodup)
    (hwo : wo ∉ ids) (ops : List PubSub.Op) (hops : OpsOk p ids ops) (hh : HistOk Single.init ops) :
    (∀ x, seenBy x (runSync (Cluster.init ids wo) ops).2 = seenBy x (Single.run Single.init ops).2) ∧
    appEvents (runSync (Cluster.init ids wo) ops).2 = appEvents (Single.run Single.init ops).2 := by
  obtain ⟨h1, h2, _, _⟩ := sync_equiv_from p _ _ (sim_init p ids wo hnd hwo) (linked_init p.home ids wo) ops
    (by rw [init_ids]; exact hops) hh
  exact ⟨h1, h2⟩

/-- The same with the freshness of session ids stated on the history itself: the session ids of the
    `connect`s are pairwise distinct (`connSids ops` has no duplicates), and (`CbPersonal`, judged on
    the run of the reference server, decidable) at the moment of every emit with a callback nobody
    but the client of that name is in the addressed personal room. -/
theorem sync_equiv_fresh (p : Placement) (ids : List HostId) (wo : HostId) (hnd : ids.Nodup)
    (hwo : wo ∉ ids) (ops : List PubSub.Op) (hops : OpsOk p ids ops) (hfresh : (connSids ops).Nodup)
    (hcb : CbPersonal Single.init ops) :
    (∀ x, seenBy x (runSync (Cluster.init ids wo) ops).2 = seenBy x (Single.run Single.init ops).2) ∧
    appEvents (runSync (Cluster.init ids wo) ops).2 = appEvents (Single.run Single.init ops).2 :=
  sync_equiv p ids wo hnd hwo ops hops
    (histOk_of_fresh Single.init Inv.nil ops hfresh
      (fun _ _ => ⟨fun _ he => (nomatch he), fun _ ha => (nomatch ha)⟩) hcb)

/-- ... in particular the callback invocations alone (token, arguments), in order -/
theorem sync_equiv_callbacks (p : Placement) (ids : List HostId) (wo : HostId) (hnd : ids.Nodup)
    (hwo : wo ∉ ids) (ops : List PubSub.Op) (hops : OpsOk p ids ops) (hh : HistOk Single.init ops) :
    cbEvents (runSync (Cluster.init ids wo) ops).2 = cbEvents (Single.run Single.init ops).2 := by
  have h := (sync_equiv p ids wo hnd hwo ops hops hh).2
  have key : ∀ outs : List Out, cbEvents outs =
      (appEvents outs).filterMap (fun e => match e with | .callback t a => some (t, a) | _ => none) := by
    intro outs
    induction outs with
    | nil => rfl
    | cons o outs ih => cases o <;> simp only [cbEvents, appEvents, List.filterMap_cons, ih]
  rw [key, key, h]

/-! ### a concrete history (non-vacuity) -/

def hA : HostId := ['h', 'A']
def hB : HostId := ['h', 'B']
def hW : HostId := ['w', 'o']
def nsR : Ns := ['/']
def sA : Sid := ['s', 'A']
def sB : Sid := ['s', 'B']
def tA : Eio := ['t', 'A']
def tB : Eio := ['t', 'B']
def rR : Room := ['r']

/-- `sA` lives on host A, `sB` on host B -/
def demoPlacement : Placement :=
  { home := fun s => if s = sA then hA else hB, ehome := fun t => if t = tA then hA else hB }

def demoOps : List PubSub.Op :=
  [ .connect hA nsR tA sA, .connect hB nsR tB sB,
    .enter hB nsR sA rR,                                  -- asked of the host where sA does NOT live
    .enter hB nsR sB rR,
    .emit (some hA) ['e', '1'] (.one (.int 1)) nsR (.one rR) .none none,
    .emit none ['e', '2'] .none nsR .all (.one sA) none,  -- the write-only manager, skipping sA
    .emit (some hB) ['e', '3'] .none nsR (.one sA) .none (some 7),
    .ack nsR sA 0 [.int 9],
    .disconnect hA nsR sB ]

theorem demoOps_ok : OpsOk demoPlacement [hA, hB] demoOps := by
  intro op hop
  simp only [demoOps, List.mem_cons, List.not_mem_nil, or_false] at hop
  rcases hop with rfl | rfl | rfl | rfl | rfl | rfl | rfl | rfl | rfl <;>
    simp [OpOk, demoPlacement, Target.ok] <;> decide

-- the history respects `HistOk`: fresh session ids, and `sA` is alone in its personal room when
-- host B emits to it with callback 7
theorem demoOps_hist : HistOk Single.init demoOps := by decide +kernel
example : (connSids demoOps).Nodup ∧ CbPersonal Single.init demoOps := by decide +kernel

/-- everything the demo history makes the cluster send and invoke (the model evaluated once) -/
theorem demoOps_outs : (runSync (Cluster.init [hA, hB] hW) demoOps).2 =
    [.send hA sA tA ⟨nsR, .str ['e', '1'], [.int 1], none⟩, .send hB sB tB ⟨nsR, .str ['e', '1'], [.int 1], none⟩,
     .send hB sB tB ⟨nsR, .str ['e', '2'], [], none⟩, .send hA sA tA ⟨nsR, .str ['e', '3'], [], some 1⟩,
     .callback hB 7 [.int 9], .sendDisc hB sB tB nsR, .discHandler hB sB nsR] := by rfl

theorem demoOps_equiv : (∀ x, seenBy x (runSync (Cluster.init [hA, hB] hW) demoOps).2 =
      seenBy x (Single.run Single.init demoOps).2) ∧
    appEvents (runSync (Cluster.init [hA, hB] hW) demoOps).2 = appEvents (Single.run Single.init demoOps).2 :=
  sync_equiv demoPlacement [hA, hB] hW (by decide) (by decide) demoOps demoOps_ok demoOps_hist

-- what the two clients see, and that the callback ran on the issuing host B with the client's 9
example : seenBy sA (runSync (Cluster.init [hA, hB] hW) demoOps).2 =
    [.event nsR (.str ['e', '1']) [.int 1] false, .event nsR (.str ['e', '3']) [] true] := by
  rw [demoOps_outs]; rfl
example : seenBy sB (runSync (Cluster.init [hA, hB] hW) demoOps).2 =
    [.event nsR (.str ['e', '1']) [.int 1] false, .event nsR (.str ['e', '2']) [] false,
     .disconnect nsR] := by rw [demoOps_outs]; rfl
example : (runSync (Cluster.init [hA, hB] hW) demoOps).2.filter isCallbackOut =
    [.callback hB 7 [.int 9]] := by rw [demoOps_outs]; rfl
example : appEvents (runSync (Cluster.init [hA, hB] hW) demoOps).2 =
    appEvents (Single.run Single.init demoOps).2 := demoOps_equiv.2
-- `sync_equiv` applies to it, and what it equates is not empty: the callback with the client's 9,
-- then the disconnect handler of `sB`
example : (∀ x, seenBy x (runSync (Cluster.init [hA, hB] hW) demoOps).2 =
      seenBy x (Single.run Single.init demoOps).2) ∧
    appEvents (runSync (Cluster.init [hA, hB] hW) demoOps).2 = appEvents (Single.run Single.init demoOps).2 :=
  demoOps_equiv
example : appEvents (Single.run Single.init demoOps).2 =
    [.callback 7 [.int 9], .disconnected sB nsR] := by rfl
-- a history outside `HistOk` on which the statement is indeed false: `sB` has entered the personal
-- room of `sA`, both acknowledge — the single server calls back twice, the cluster once
def aliasOps : List PubSub.Op :=
  [ .connect hA nsR tA sA, .connect hB nsR tB sB, .enter hA nsR sB sA,
    .emit (some hA) ['e'] .none nsR (.one sA) .none (some 7),
    .ack nsR sA 0 [.int 1], .ack nsR sB 0 [.int 2] ]
example : ¬ HistOk Single.init aliasOps := by decide +kernel
example : cbEvents (Single.run Single.init aliasOps).2 = [(7, [.int 1]), (7, [.int 2])] := by rfl
example : cbEvents (runSync (Cluster.init [hA, hB] hW) aliasOps).2 = [(7, [.int 1])] := by rfl

/-! ## eligible — who receives an emit when a host applies it -/

theorem seenEmit_eligible {rooms : Rooms.St} (hinv : Inv rooms) (ns : Ns) (to : Target) (skip : List Sid)
    (ev : J) (args : List J) (w : Bool) (sid : Sid) :
    ((C03.connected rooms ns sid ∧ C03.addressedBy rooms ns sid to ∧ sid ∉ skip) →
      seenEmit rooms ns to skip ev args w sid = [Seen.event ns ev args w]) ∧
    (¬ (C03.connected rooms ns sid ∧ C03.addressedBy rooms ns sid to ∧ sid ∉ skip) →
      seenEmit rooms ns to skip ev args w sid = []) := by
  have hiff := C03.recipients_exact hinv ns to skip sid
  unfold seenEmit
  exact ⟨fun hx => if_pos (hiff.mpr hx), fun hx => if_neg (fun hc => hx (hiff.mp hc))⟩

/-- **Exactly the eligible clients, once each, at the moment of application.**  When host `h`
    applies another host's emit (at whatever moment its listener gets to it), a client of `h`
    receives the event exactly once if, on `h` at that moment, it is connected to the namespace, is
    a member of an addressed room and is not skipped — and otherwise not at all. -/
theorem eligible (h : Host) (hinv : Inv h.rooms) (o : HostId) (ev : Str) (d : Data) (ns : Ns)
    (to : Target) (skip : Skip) (cb : Option (Str × Ns × Nat)) (ho : o ≠ h.id) (hok : Target.ok to)
    (sid : Sid) :
    ((C03.connected h.rooms ns sid ∧ C03.addressedBy h.rooms ns sid to ∧ sid ∉ skip.toList) →
      seenBy sid (listenMsg h (.emit o ev d ns to skip cb)).outs =
        [Seen.event ns (.str ev) d.pack cb.isSome]) ∧
    (¬ (C03.connected h.rooms ns sid ∧ C03.addressedBy h.rooms ns sid to ∧ sid ∉ skip.toList) →
      seenBy sid (listenMsg h (.emit o ev d ns to skip cb)).outs = []) := by
  rw [listenMsg_emit_eq h o ev d ns to skip cb ho hok, seenBy_emitLocal h hinv, relayOf_isSome]
  exact seenEmit_eligible hinv ns to skip.toList _ _ _ sid

/-- the same on the issuing host, which applies the emit to its own clients before publishing -/
theorem eligible_local (h : Host) (hinv : Inv h.rooms) (ev : Str) (d : Data) (ns : Ns)
    (to : Target) (skip : Skip) (cb : Option Nat) (hok : Target.ok to)
    (hcb : cb.isSome → ∃ r, to = .one r) (sid : Sid) :
    ((C03.connected h.rooms ns sid ∧ C03.addressedBy h.rooms ns sid to ∧ sid ∉ skip.toList) →
      seenBy sid (apiEmit h true ev d ns to skip cb).outs =
        [Seen.event ns (.str ev) d.pack cb.isSome]) ∧
    (¬ (C03.connected h.rooms ns sid ∧ C03.addressedBy h.rooms ns sid to ∧ sid ∉ skip.toList) →
      seenBy sid (apiEmit h true ev d ns to skip cb).outs = []) := by
  obtain ⟨_, _, _, _, _, hseen, _⟩ := apiEmit_effect h hinv ev d ns to skip cb hok hcb
  rw [hseen sid]
  exact seenEmit_eligible hinv ns to skip.toList _ _ _ sid

/-- a host never applies its own emit a second time: the echo is dropped -/
theorem own_echo_dropped (h : Host) (m : Msg) (hm : m.isCb = false) (ho : m.origin = some h.id) :
    listenMsg h m = { h := h } := listenMsg_own h m hm ho

/-! ## at_most_once — any consumption schedule -/

/-- a history in which every `connect` happens on the host where the placement puts the session and
    emit targets are proper; `deliver` / `drain` may come anywhere, with any `k` -/
def OpsFine (home : Sid → HostId) (ops : List PubSub.Op) : Prop := ∀ op ∈ ops, OpFine home op

/-- how many emits of the history use the event name `ev` -/
def emitsNamed (ev : Str) : List PubSub.Op → Nat
  | [] => 0
  | op :: ops => opBudget ev op + emitsNamed ev ops

theorem running_init (home : Sid → HostId) (ids : List HostId) (wo : HostId) (hnd : ids.Nodup) :
    Running home (Cluster.init ids wo) := by
  have hrooms : ∀ h ∈ (Cluster.init ids wo).hosts, h.rooms = [] ∧ h.cursor = 0 := by
    intro h hh
    obtain ⟨i, rfl⟩ := mem_init hh
    exact ⟨rfl, rfl⟩
  refine ⟨by rw [init_ids]; exact hnd, ?_, ?_, ?_, EmitsOk.nil, rfl⟩
  · intro h hh; rw [(hrooms h hh).1]; exact Inv.nil
  · intro h hh e he; rw [(hrooms h hh).1] at he; cases he
  · intro h hh; rw [(hrooms h hh).2]; exact Nat.zero_le _

/-- From any state a run can reach, under ANY interleaving of operations with per-host
    consumption of the channel: a client sees the event `ev` at most as often as the history emits
    it, plus the copies already in flight towards its host. -/
theorem at_most_once_from (home : Sid → HostId) (c : Cluster) (hrun : Running home c)
    (ops : List PubSub.Op) (hops : OpsFine home ops) (ev : Str) (sid : Sid) :
    evCount ev (seenBy sid (PubSub.run c ops).2) ≤ emitsNamed ev ops + pendingEv home ev sid c ∧
    Running home (PubSub.run c ops).1 := by
  induction ops generalizing c with
  | nil => exact ⟨Nat.zero_le _, hrun⟩
  | cons op ops ih =>
    obtain ⟨hfine, hops'⟩ := List.forall_mem_cons.1 hops
    obtain ⟨h1, h2⟩ := once_step c hrun op hfine ev sid
    obtain ⟨i1, i2⟩ := ih (step c op).1 h1 hops'
    refine ⟨?_, i2⟩
    simp only [PubSub.run, seenBy_append, evCount_append, emitsNamed]
    omega

/-- **Each emit reaches each client at most once** — also on the issuing host, which applies it
    locally and later meets its own message on the channel — for every placement of clients on
    hosts and every consumption schedule: if one emit of the history is called `ev`, no client
    ever sees `ev` twice. -/
theorem at_most_once (home : Sid → HostId) (ids : List HostId) (wo : HostId) (hnd : ids.Nodup)
    (ops : List PubSub.Op) (hops : OpsFine home ops) (ev : Str) (hone : emitsNamed ev ops ≤ 1)
    (sid : Sid) :
    evCount ev (seenBy sid (PubSub.run (Cluster.init ids wo) ops).2) ≤ 1 := by
  have h := (at_most_once_from home _ (running_init home ids wo hnd) ops hops ev sid).1
  have hp : pendingEv home ev sid (Cluster.init ids wo) = 0 := by
    unfold pendingEv
    split
    · rfl
    · simp [Cluster.init]
  omega

/-- the structural reason, stated on its own: a `deliver` applies exactly the next entries of the
    channel, in order, and moves the cursor past them — no entry is ever applied twice by a host -/
theorem deliver_consumes_next (chan : List Msg) (k : Nat) (h : Host) :
    (deliverOn chan k h).h.cursor = h.cursor + ((chan.drop h.cursor).take k).length ∧
    (deliverOn chan k h).outs = (catchUp h ((chan.drop h.cursor).take k)).outs := ⟨rfl, rfl⟩

-- non-vacuity: a schedule with delayed delivery; `e1` is emitted once and seen once by each member
def lazyOps : List PubSub.Op :=
  [ .connect hA nsR tA sA, .connect hB nsR tB sB, .enter hA nsR sA rR, .enter hB nsR sB rR,
    .emit (some hA) ['e', '1'] .none nsR (.one rR) .none none,
    .deliver hB 1, .deliver hA 5, .deliver hB 5, .deliver hB 5, .drain ]

example : OpsFine demoPlacement.home lazyOps := by
  intro op hop
  simp only [lazyOps, List.mem_cons, List.not_mem_nil, or_false] at hop
  rcases hop with rfl | rfl | rfl | rfl | rfl | rfl | rfl | rfl | rfl | rfl <;>
    simp [OpFine, demoPlacement, Target.ok] <;> decide
example : emitsNamed ['e', '1'] lazyOps = 1 := by decide +kernel
example : evCount ['e', '1'] (seenBy sA (PubSub.run (Cluster.init [hA, hB] hW) lazyOps).2) = 1 := by
  decide +kernel
example : evCount ['e', '1'] (seenBy sB (PubSub.run (Cluster.init [hA, hB] hW) lazyOps).2) = 1 := by
  decide +kernel

/-! ## callback_once — any consumption schedule -/

/-- how many emits of the history carry the callback `tok` -/
def regsOf (tok : Nat) : List PubSub.Op → Nat
  | [] => 0
  | .emit _ _ _ _ _ _ (some t) :: ops => (if t = tok then 1 else 0) + regsOf tok ops
  | _ :: ops => regsOf tok ops

/-- every emit that carries `tok` is issued through host `v` -/
def RegVia (tok : Nat) (v : HostId) (ops : List PubSub.Op) : Prop :=
  ∀ op ∈ ops, ∀ via ev d ns to skip, op = PubSub.Op.emit via ev d ns to skip (some tok) → via = some v

theorem notReg_of_regsOf_zero {tok : Nat} {op : PubSub.Op} {ops : List PubSub.Op}
    (h : regsOf tok (op :: ops) = 0) : NotReg tok op ∧ regsOf tok ops = 0 := by
  cases op with
  | emit via ev d ns to skip cb =>
    cases cb with
    | none => exact ⟨nofun, h⟩
    | some t =>
      simp only [regsOf] at h
      by_cases ht : t = tok
      · simp [ht] at h
      · simp only [ht, if_false, Nat.zero_add] at h
        exact ⟨by simp [NotReg, ht], h⟩
  | _ => exact ⟨trivial, h⟩

/-- once the entry is gone and no emit carries `tok` any more, it is never invoked again -/
theorem callback_never_without_entry (home : Sid → HostId) (tok : Nat) (c : Cluster)
    (hrun : Running home c) (ops : List PubSub.Op) (hops : OpsFine home ops) (hno : TokNowhere tok c.hosts)
    (hreg : regsOf tok ops = 0) : cbCount tok (PubSub.run c ops).2 = 0 := by
  induction ops generalizing c with
  | nil => rfl
  | cons op ops ih =>
    obtain ⟨hnr, hreg'⟩ := notReg_of_regsOf_zero hreg
    obtain ⟨hfine, hops'⟩ := List.forall_mem_cons.1 hops
    obtain ⟨h0, hno'⟩ := (tok_step tok [] [] 0 c hrun op hfine hnr (hno.tokAt [] [] 0)).2.2.2.2 hno
    have hrun' := (once_step c hrun op hfine [] []).1
    have := ih (step c op).1 hrun' hops' hno' hreg'
    simp only [PubSub.run, cbCount_append]; omega

/-- while the entry sits in its slot on host `v`: at most one invocation, on `v` -/
theorem callback_once_stored (home : Sid → HostId) (tok : Nat) (v : HostId) (k : Str) (i : Nat)
    (c : Cluster) (hrun : Running home c) (ops : List PubSub.Op) (hops : OpsFine home ops)
    (ht : TokAt tok v k i c.hosts) (hreg : regsOf tok ops = 0) :
    cbCount tok (PubSub.run c ops).2 ≤ 1 ∧ CbOn tok v (PubSub.run c ops).2 := by
  induction ops generalizing c with
  | nil => exact ⟨Nat.zero_le 1, CbOn.of_count_zero rfl⟩
  | cons op ops ih =>
    obtain ⟨hnr, hreg'⟩ := notReg_of_regsOf_zero hreg
    obtain ⟨hfine, hops'⟩ := List.forall_mem_cons.1 hops
    obtain ⟨s1, s2, s3, s4, _⟩ := tok_step tok v k i c hrun op hfine hnr ht
    have hrun' := (once_step c hrun op hfine [] []).1
    simp only [PubSub.run, cbCount_append]
    by_cases hc : cbCount tok (step c op).2 = 1
    · have hz := callback_never_without_entry home tok _ hrun' ops hops' (s4 hc) hreg'
      exact ⟨by omega, s3.append (CbOn.of_count_zero hz)⟩
    · obtain ⟨i1, i2⟩ := ih (step c op).1 hrun' hops' s1 hreg'
      exact ⟨by omega, s3.append i2⟩

/-- **The callback given to an emit is invoked at most once, and only by the issuing server** —
    for every placement of clients and every consumption schedule: if at most one emit of the
    history carries `tok`, through host `v`, then `tok` is invoked at most once, on `v`. -/
theorem callback_once (home : Sid → HostId) (tok : Nat) (v : HostId) (c : Cluster)
    (hrun : Running home c) (ops : List PubSub.Op) (hops : OpsFine home ops) (hno : TokNowhere tok c.hosts)
    (hreg : regsOf tok ops ≤ 1) (hvia : RegVia tok v ops) :
    cbCount tok (PubSub.run c ops).2 ≤ 1 ∧ CbOn tok v (PubSub.run c ops).2 := by
  induction ops generalizing c with
  | nil => exact ⟨Nat.zero_le 1, CbOn.of_count_zero rfl⟩
  | cons op ops ih =>
    obtain ⟨hfine, hops'⟩ := List.forall_mem_cons.1 hops
    have hrun' := (once_step c hrun op hfine [] []).1
    obtain ⟨hvia₀, hvia'⟩ := List.forall_mem_cons.1 hvia
    simp only [PubSub.run, cbCount_append]
    by_cases hr : ∃ via ev d ns to skip, op = PubSub.Op.emit via ev d ns to skip (some tok)
    · -- the emit that carries `tok`
      obtain ⟨via, ev, d, ns, to, skip, rfl⟩ := hr
      obtain rfl := hvia₀ via ev d ns to skip rfl
      have hreg' : regsOf tok ops = 0 := by simp [regsOf] at hreg; omega
      obtain ⟨k, i, t1, t2⟩ := tok_register tok c hrun v ev d ns to skip hno
      obtain ⟨a1, a2⟩ := callback_once_stored home tok v k i _ hrun' ops hops' t1 hreg'
      exact ⟨by omega, (CbOn.of_count_zero t2).append a2⟩
    · have ⟨hnr, hreg'⟩ : NotReg tok op ∧ regsOf tok ops ≤ 1 := by
        cases op with
        | emit via ev d ns to skip cb =>
          refine ⟨fun hc => hr ⟨via, ev, d, ns, to, skip, by rw [hc]⟩, ?_⟩
          cases cb with
          | none => exact hreg
          | some t => simp only [regsOf] at hreg; omega
        | _ => exact ⟨trivial, hreg⟩
      obtain ⟨h0, hno'⟩ := (tok_step tok v [] 0 c hrun op hfine hnr (hno.tokAt v [] 0)).2.2.2.2 hno
      obtain ⟨i1, i2⟩ := ih (step c op).1 hrun' hops' hno' hreg' hvia'
      exact ⟨by omega, (CbOn.of_count_zero h0).append i2⟩

/-- from the empty cluster -/
theorem callback_once_init (home : Sid → HostId) (ids : List HostId) (wo : HostId) (hnd : ids.Nodup)
    (tok : Nat) (v : HostId) (ops : List PubSub.Op) (hops : OpsFine home ops)
    (hreg : regsOf tok ops ≤ 1) (hvia : RegVia tok v ops) :
    cbCount tok (PubSub.run (Cluster.init ids wo) ops).2 ≤ 1 ∧
    CbOn tok v (PubSub.run (Cluster.init ids wo) ops).2 := by
  refine callback_once home tok v _ (running_init home ids wo hnd) ops hops ?_ hreg hvia
  intro h hh k i hx
  obtain ⟨j, rfl⟩ := mem_init hh
  cases hx

-- non-vacuity: the demo history (run without the automatic drains, then drained) invokes callback 7
-- exactly once, on host B which issued it
example : regsOf 7 (demoOps ++ [.drain]) = 1 := by decide +kernel
example : RegVia 7 hB (demoOps ++ [.drain]) := by
  intro op hop via ev d ns to skip he
  subst he
  simp [demoOps] at hop
  obtain ⟨rfl, _⟩ := hop
  rfl
example : cbCount 7 (runSync (Cluster.init [hA, hB] hW) demoOps).2 = 1 := by rw [demoOps_outs]; rfl

/-! ## unraced_exact -/

/-- While the hosts' tables partition the single server's table `s`, one emit applied to the table of
    host `h` shows a client that lives on `h` what `s` would show it, and anybody else nothing: the
    client's memberships are all on its own host. -/
theorem seenEmit_home (p : Placement) {vs : List View} {s : Rooms.St} (hp : Placed p.home p.ehome vs)
    (hu : Union vs s) (hs : Inv s) (h : Host) (hv : h.view ∈ vs) (ns : Ns) (to : Target)
    (skip : List Sid) (ev : J) (args : List J) (w : Bool) (x : Sid) :
    seenEmit h.rooms ns to skip ev args w x =
      if p.home x = h.id then seenEmit s ns to skip ev args w x else [] := by
  split
  · rename_i hx
    rw [← seenEmit_union_split hp hu hs ns to skip ev args w x h.view hv, List.flatMap_eq_nil_iff.mpr,
      List.append_nil]
    · rfl
    intro v hvv
    split
    · rfl
    · rename_i hne
      exact seenEmit_nil_of_elsewhere (hp.inv v hvv) (hp.home v hvv)
        (fun hc => hne (by rw [← hc, hx]; rfl)) ns to _ _ _ _
  · rename_i hx
    exact seenEmit_nil_of_elsewhere (hp.inv h.view hv) (hp.home h.view hv) hx ns to _ _ _ _

/-- **A message that no membership change races is delivered exactly as one server would.**
    Let `vs` be the hosts' room tables *as they are when each host applies the emit* and `s` the
    table of the single server at the moment of publication; "not raced" is: these are still the
    partition of `s` (`Placed`, `Union` — no membership operation has been applied on a host
    between publication and its application).  Then the host that applies the emit sends every
    client that lives on it exactly what the single server sends that client, and nothing to
    anybody else.  (Each host applies each entry once — `at_most_once` — so over all hosts every
    client receives exactly the single server's packets.) -/
theorem unraced_exact (p : Placement) (vs : List View) (s : Rooms.St) (hp : Placed p.home p.ehome vs)
    (hu : Union vs s) (hs : Inv s) (h : Host) (hv : h.view ∈ vs) (o : HostId) (ev : Str) (d : Data)
    (ns : Ns) (to : Target) (skip : Skip) (cb : Option (Str × Ns × Nat)) (ho : o ≠ h.id)
    (hok : Target.ok to) (x : Sid) :
    seenBy x (listenMsg h (.emit o ev d ns to skip cb)).outs =
      if p.home x = h.id then seenEmit s ns to skip.toList (.str ev) d.pack cb.isSome x else [] := by
  rw [listenMsg_emit_eq h o ev d ns to skip cb ho hok, seenBy_emitLocal h (hp.inv h.view hv), relayOf_isSome]
  exact seenEmit_home p hp hu hs h hv ns to _ _ _ _ x

/-- the same for the issuing host's local application -/
theorem unraced_exact_local (p : Placement) (vs : List View) (s : Rooms.St)
    (hp : Placed p.home p.ehome vs) (hu : Union vs s) (hs : Inv s) (h : Host) (hv : h.view ∈ vs)
    (ev : Str) (d : Data) (ns : Ns) (to : Target) (skip : Skip) (cb : Option Nat) (hok : Target.ok to)
    (hcb : cb.isSome → ∃ r, to = .one r) (x : Sid) :
    seenBy x (apiEmit h true ev d ns to skip cb).outs =
      if p.home x = h.id then seenEmit s ns to skip.toList (.str ev) d.pack cb.isSome x else [] := by
  obtain ⟨_, _, _, _, _, hseen, _⟩ := apiEmit_effect h (hp.inv h.view hv) ev d ns to skip cb hok hcb
  rw [hseen x]
  exact seenEmit_home p hp hu hs h hv ns to _ _ _ _ x

/-! ## the callback relay: the client's arguments, and exactly once when acknowledged -/

/-- **The arguments are the client's.**  Whatever an ACK packet sets off on the client's host — the
    user callback directly, or (through the relay entry) a `callback` message for the issuing host —
    carries exactly the arguments of that ACK ... -/
theorem callback_args_from_ack (h : Host) (sid : Sid) (id : Nat) (args : List J) :
    CarriesArgs args (apiAck h sid id args) := by
  rw [apiAck_eq]; exact trigger_carries chainFuel h sid id args

/-- ... and whatever a `callback` message sets off on the host that consumes it carries exactly the
    arguments in the message.  (Together: from the client's ACK to the invocation on the issuing
    host the arguments are never altered.) -/
theorem callback_args_relayed (h : Host) (origin : Option HostId) (key : Str) (ns : Ns) (id : Nat)
    (args : List J) : CarriesArgs args (listenMsg h (.callback origin key ns id args)) := by
  rw [listenMsg_callback]
  split
  · exact trigger_carries chainFuel h key id args
  · exact ⟨fun o ho => (nomatch ho), fun m hm => (nomatch hm)⟩

/-- **Exactly once when the client ACKs and the hosts drain**, for every placement (the client's
    host `hs` and the issuing host `hv` may be the same or different, any number of other hosts):
    in a drained cluster in which the relay entry of the acknowledged event on `hs` is linked to the
    user callback `tok` on `hv` — the configuration that `emit(..., to=sid, callback=cb)` via `hv`
    plus a drain creates, see the example — the ACK followed by one drain pass invokes exactly one
    callback: `tok`, on `hv`, with the client's arguments.  With `callback_once` (never more than
    once, never elsewhere, under any schedule) this is "exactly once, on the issuing server, with
    the remote client's acknowledgement". -/
theorem callback_exactly_once_when_linked (home : Sid → HostId) (c : Cluster) (hrun : Running home c)
    (hdr : ∀ h ∈ c.hosts, h.cursor = c.chan.length) (hs hv : Host) (hhs : hs ∈ c.hosts)
    (hhv : hv ∈ c.hosts) (ns : Ns) (sid : Sid) (n ic : Nat) (args : List J) (k : Str) (ns' : Ns)
    (id0 tok : Nat) (hconn : hs.connected ns sid = true) (hnth : nthAsked c.asked sid n = some ic)
    (hrel : hs.cbs sid ic = some (.relay (some hv.id) k ns' id0))
    (huser : hv.cbs k id0 = some (.user tok)) :
    cbOuts (runSync c [.ack ns sid n args]).2 = [.callback hv.id tok args] := by
  simp only [runSync, List.append_nil]
  exact callback_delivered c hrun hdr hs hv hhs hhv ns sid n ic args k ns' id0 tok hconn hnth hrel huser

-- non-vacuity: host B emits to client `sA` (which lives on host A) with callback 7, everybody drains:
-- the tables are linked as the theorem requires, and the ACK is delivered across the channel
def linkedOps : List PubSub.Op :=
  [ .connect hA nsR tA sA, .connect hB nsR tB sB,
    .emit (some hB) ['e', '3'] .none nsR (.one sA) .none (some 7), .drain ]
def linked : Cluster := (PubSub.run (Cluster.init [hA, hB] hW) linkedOps).1
def linkedA : Host := linked.hosts.head!
def linkedB : Host := linked.hosts.getLast!

example : cbOuts (runSync linked [.ack nsR sA 0 [.int 9]]).2 = [.callback hB 7 [.int 9]] := by
  have hfine : OpsFine demoPlacement.home linkedOps := by
    intro op hop
    simp only [linkedOps, List.mem_cons, List.not_mem_nil, or_false] at hop
    rcases hop with rfl | rfl | rfl | rfl <;> simp [OpFine, demoPlacement, Target.ok] <;> decide
  have hrun : Running demoPlacement.home linked :=
    (at_most_once_from demoPlacement.home _ (running_init _ [hA, hB] hW (by decide)) linkedOps hfine [] []).2
  have hhosts : linked.hosts = [linkedA, linkedB] := rfl
  have hdr : ∀ h ∈ linked.hosts, h.cursor = linked.chan.length := by
    intro h hh
    rw [hhosts] at hh
    simp only [List.mem_cons, List.not_mem_nil, or_false] at hh
    rcases hh with rfl | rfl <;> rfl
  exact callback_exactly_once_when_linked demoPlacement.home linked hrun hdr linkedA linkedB
    (by rw [hhosts]; simp) (by rw [hhosts]; simp) nsR sA 0 1 [.int 9] sA nsR 1 7 rfl rfl rfl rfl

/-! ## remote_ops_local_effect -/

/-- **A published `enter_room` / `leave_room` / `disconnect` changes state only on the host where
    the session is connected**: everywhere else the entry is a no-op. -/
theorem remote_ops_local_effect (h : Host) (o : HostId) (sid : Sid) (ns : Ns)
    (room : Room) (hn : h.connected ns sid = false) :
    listenMsg h (.enterRoom o sid ns room) = { h := h } ∧
    listenMsg h (.leaveRoom o sid ns room) = { h := h } ∧
    listenMsg h (.disconnect o sid ns) = { h := h } := by
  have hq : eioOf h.rooms ns sid = none := by
    simpa [Host.connected] using hn
  by_cases ho : o = h.id
  · exact ⟨listenMsg_own h _ rfl (congrArg some ho), listenMsg_own h _ rfl (congrArg some ho),
      listenMsg_own h _ rfl (congrArg some ho)⟩
  · rw [listenMsg_enterRoom_eq h o sid ns room ho, listenMsg_leaveRoom_eq h o sid ns room ho,
      listenMsg_disconnect_eq h o sid ns ho, hq, hn, localDisconnect, hq]
    exact ⟨rfl, rfl, rfl⟩

/-- ... and where it is connected, it has the effect of the local operation -/
theorem remote_ops_effect_where_connected (h : Host) (hinv : Inv h.rooms) (o : HostId) (ho : o ≠ h.id)
    (sid : Sid) (ns : Ns) (room : Room) :
    (listenMsg h (.enterRoom o sid ns room)).h.rooms = enterLocal h.rooms ns sid room ∧
    (listenMsg h (.leaveRoom o sid ns room)).h.rooms = Rooms.leave h.rooms ns sid (some room) ∧
    (listenMsg h (.disconnect o sid ns)).h.rooms = Rooms.disconnect h.rooms ns sid ∧
    (listenMsg h (.closeRoom o ns room)).h.rooms = Rooms.closeRoom h.rooms ns room := by
  have e1 := (listenMsg_effect h hinv (.enterRoom o sid ns room) rfl (fun _ _ _ _ _ _ _ heq => by cases heq)).1
  have e2 := (listenMsg_effect h hinv (.leaveRoom o sid ns room) rfl (fun _ _ _ _ _ _ _ heq => by cases heq)).1
  have e3 := (listenMsg_effect h hinv (.disconnect o sid ns) rfl (fun _ _ _ _ _ _ _ heq => by cases heq)).1
  have e4 := (listenMsg_effect h hinv (.closeRoom o ns room) rfl (fun _ _ _ _ _ _ _ heq => by cases heq)).1
  simp only [roomsAfter, if_neg ho] at e1 e2 e3 e4
  exact ⟨e1, e2, e3, e4⟩

-- non-vacuity: after the demo history `sA` lives on host A only; an `enter_room` for it published
-- by B changes A and nothing on B
def demoCluster : Cluster := (runSync (Cluster.init [hA, hB] hW) (demoOps.take 4)).1
example : (demoCluster.hosts.map (fun h => h.connected nsR sA)) = [true, false] := by decide +kernel
example : (demoCluster.hosts.map (fun h => (listenMsg h (.enterRoom hW sA nsR ['q'])).h.rooms.length))
    = [4, 3] := by decide +kernel

end Sio.C07
