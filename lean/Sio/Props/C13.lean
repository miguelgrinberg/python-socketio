/-
  C13 — handler resolution follows the documented precedence on server and client.

  Every theorem quantifies over ARBITRARY registries (`Reg` is three functions), arbitrary
  namespace and event names; nothing is enumerated.  The reserved-event lists are the ones
  regenerated from the Python source (`Sio/Generated/Reserved.lean`); theorems that mention
  `reservedOf k` / `resolve k` are re-checked against the current source on every run.
-/
import Sio.Model.Dispatch
namespace Sio.C13
open Sio.Dispatch

/-- some function handler is eligible for `(ns, ev)`: an exact-name handler (never for an event
    literally named `"*"`) or, for a non-reserved event, a catch-all event handler -/
def eligibleFn (reserved : List Ev) (r : Reg) (ns : Ns) (ev : Ev) : Bool :=
  r.nsExact ns ev || r.exact star ev || (!reserved.contains ev && (r.nsCatch ns || r.fn star star))

/-! ### the precedence table

Each lookup of the source is first rewritten as a test of the presence bits the table reads
(`Reg.nsExact` … `Reg.nsCls`); after that both sides are first-match chains over the same bits,
and one case split per row settles the row. -/

theorem eventHandlerNs_eq (reserved : List Ev) (r : Reg) (ns : Ns) (ev : Ev) :
    eventHandlerNs reserved r ns ev =
      bif r.nsExact ns ev then some (.fnNsEv, [])
      else bif r.nsCatch ns && !reserved.contains ev then some (.fnNsStar, [.ev]) else none := by
  unfold eventHandlerNs Reg.nsExact Reg.nsCatch bne
  cases ns == star <;> cases r.exact ns ev <;> cases r.fn ns star <;> cases reserved.contains ev <;> rfl

theorem eventHandlerStar_eq (reserved : List Ev) (r : Reg) (ns : Ns) (ev : Ev) :
    eventHandlerStar reserved r ns ev =
      bif r.exact star ev then some (.fnStarEv, [.ns])
      else bif r.fn star star && !reserved.contains ev then some (.fnStarStar, [.ev, .ns]) else none := by
  unfold eventHandlerStar
  cases r.exact star ev <;> cases r.fn star star <;> cases reserved.contains ev <;> rfl

theorem getNamespaceHandlerC_eq (r : Reg) (ns : Ns) :
    getNamespaceHandlerC r ns =
      bif r.nsCls ns then some (.clsNs, ns, [])
      else bif r.cls star then some (.clsStar, star, [.ns]) else none := by
  unfold getNamespaceHandlerC Reg.nsCls
  cases ns != star && r.cls ns <;> cases r.cls star <;> rfl

/-- `if handler is None and '*' in …` (server) and `elif '*' in …` (client) are the same lookup. -/
theorem getNamespaceHandlerS_eq_C : getNamespaceHandlerS = getNamespaceHandlerC := by
  funext r ns
  unfold getNamespaceHandlerS getNamespaceHandlerC
  cases ns != star && r.cls ns <;> rfl

/-- The client transcription (`elif '*' in self.namespace_handlers`) and the server transcription
    (`if handler is None and '*' in …`) are the same function of reserved list, registry, namespace
    and event.  (Holds since /repo commit a085733; before it `_get_event_handler` differed.) -/
theorem client_eq_server : resolveC = resolveS := by
  funext reserved r ns ev
  simp only [resolveC, resolveS, getNamespaceHandlerS_eq_C]

/-- General form: `resolveS` is the documented table, for every reserved list, registry, namespace
    and event (reserved or not; `"*"` as a name included: `Reg.exact` is false for it). -/
theorem precedence_table_S (reserved : List Ev) (r : Reg) (ns : Ns) (ev : Ev) :
    resolveS reserved r ns ev =
      table (reserved.contains ev) (r.nsExact ns ev) (r.nsCatch ns) (r.exact star ev) (r.fn star star)
        (r.nsCls ns) (r.cls star) (r.hasMethod ns ev) (r.hasMethod star ev) := by
  simp only [resolveS, getEventHandler, eventHandlerNs_eq, eventHandlerStar_eq, getNamespaceHandlerS_eq_C,
    getNamespaceHandlerC_eq, triggerEvent, table, Reg.hasMethod]
  cases r.nsExact ns ev
  case true => rfl
  cases r.nsCatch ns && !reserved.contains ev
  case true => rfl
  cases r.exact star ev
  case true => rfl
  cases r.fn star star && !reserved.contains ev
  case true => rfl
  cases r.nsCls ns
  case true => rfl
  cases r.cls star <;> rfl

/-- All four classes, with the regenerated reserved lists. -/
theorem precedence_table (k : Kind) (r : Reg) (ns : Ns) (ev : Ev) :
    resolve k r ns ev =
      table ((reservedOf k).contains ev) (r.nsExact ns ev) (r.nsCatch ns) (r.exact star ev)
        (r.fn star star) (r.nsCls ns) (r.cls star) (r.hasMethod ns ev) (r.hasMethod star ev) := by
  cases k <;> simp only [resolve, reservedOf, client_eq_server] <;> exact precedence_table_S _ r ns ev

/-- What the source lists as reserved (checked against the regenerated lists): `connect` and
    `disconnect` everywhere, `connect_error` on both clients; `"*"` nowhere. -/
theorem reserved_lists :
    (∀ k, "connect".toList ∈ reservedOf k ∧ "disconnect".toList ∈ reservedOf k) ∧
    "connect_error".toList ∈ reservedOf .client ∧ "connect_error".toList ∈ reservedOf .asyncClient ∧
    (∀ k, star ∉ reservedOf k) := by
  refine ⟨?_, ?_, ?_, ?_⟩
  · intro k; cases k <;> decide +kernel
  · decide +kernel
  · decide +kernel
  · intro k; cases k <;> decide +kernel

/-- **The six-line table of the statement**, on every one of the four classes, for every registry,
    every namespace and EVERY non-reserved event name — an event literally named `"*"` included.
    The two exact-name lines test `Reg.exact` (`ev ≠ "*"` and a handler registered under that
    name), so for `ev = "*"` they are never taken (`star_event`).  A class slot invokes the
    attribute `on_<event>` (`methodName ev`) if the class has it.  Likewise the three
    exact-namespace lines test `Reg.nsExact/nsCatch/nsCls` (`ns ≠ "*"` and …), so a namespace
    literally named `"*"` is never an exact match (`star_namespace`). -/
theorem precedence (k : Kind) (r : Reg) (ns : Ns) (ev : Ev) (hres : ev ∉ reservedOf k) :
    resolve k r ns ev =
      match r.nsExact ns ev, r.nsCatch ns, r.exact star ev, r.fn star star, r.nsCls ns, r.cls star with
      | true,  _,     _,     _,     _,     _     => .invoke .fnNsEv []
      | false, true,  _,     _,     _,     _     => .invoke .fnNsStar [.ev]
      | false, false, true,  _,     _,     _     => .invoke .fnStarEv [.ns]
      | false, false, false, true,  _,     _     => .invoke .fnStarStar [.ev, .ns]
      | false, false, false, false, true,  _     =>
        bif r.attr ns (methodName ev) then .invoke .clsNs [] else .dropped .clsNs
      | false, false, false, false, false, true  =>
        bif r.attr star (methodName ev) then .invoke .clsStar [.ns] else .dropped .clsStar
      | false, false, false, false, false, false => .notHandled := by
  rw [precedence_table, show (reservedOf k).contains ev = false by simpa using hres]
  simp only [table, Reg.hasMethod, Bool.not_false, Bool.and_true]
  cases r.nsExact ns ev
  case true => rfl
  cases r.nsCatch ns
  case true => rfl
  cases r.exact star ev
  case true => rfl
  cases r.fn star star
  case true => rfl
  cases r.nsCls ns
  case true => rfl
  cases r.cls star <;> rfl

/-- The same table for a reserved event: the two catch-all *event* lines disappear, everything else
    keeps its place. -/
theorem precedence_reserved (k : Kind) (r : Reg) (ns : Ns) (ev : Ev) (hres : ev ∈ reservedOf k) :
    resolve k r ns ev =
      match r.nsExact ns ev, r.exact star ev, r.nsCls ns, r.cls star with
      | true,  _,     _,     _     => .invoke .fnNsEv []
      | false, true,  _,     _     => .invoke .fnStarEv [.ns]
      | false, false, true,  _     =>
        bif r.attr ns (methodName ev) then .invoke .clsNs [] else .dropped .clsNs
      | false, false, false, true  =>
        bif r.attr star (methodName ev) then .invoke .clsStar [.ns] else .dropped .clsStar
      | false, false, false, false => .notHandled := by
  rw [precedence_table, List.contains_iff_mem.2 hres]
  simp only [table, Reg.hasMethod, Bool.not_true, Bool.and_false]
  cases r.nsExact ns ev
  case true => rfl
  cases r.exact star ev
  case true => rfl
  cases r.nsCls ns
  case true => rfl
  cases r.cls star <;> rfl

theorem exact_star (r : Reg) (n : Ns) : r.exact n star = false := by
  simp [Reg.exact]

theorem exact_of_ne (r : Reg) (n : Ns) {ev : Ev} (h : ev ≠ star) : r.exact n ev = r.fn n ev := by
  simp [Reg.exact, h]

theorem nsBits_star (r : Reg) (ev : Ev) :
    r.nsExact star ev = false ∧ r.nsCatch star = false ∧ r.nsCls star = false := by
  simp [Reg.nsExact, Reg.nsCatch, Reg.nsCls]

theorem nsBits_of_ne (r : Reg) {ns : Ns} (h : ns ≠ star) (ev : Ev) :
    r.nsExact ns ev = r.exact ns ev ∧ r.nsCatch ns = r.fn ns star ∧ r.nsCls ns = r.cls ns := by
  simp [Reg.nsExact, Reg.nsCatch, Reg.nsCls, h]

/-- **An event literally named `"*"`** (it is not reserved on any class) is routed like any other
    event without a handler of its own: to the namespace's catch-all event handler with the event
    name prepended, else to `handlers['*']['*']` with `[ev, ns]` prepended, else to the class-based
    namespaces (method `on_*`) — and NEVER as an exact-name match, whatever is registered: the
    catch-all handlers are not invoked without the event name.  (Before /repo 6dcbd32 the first
    line was `invoke fnNsEv []`: arguments shifted by one.) -/
theorem star_event (k : Kind) (r : Reg) (ns : Ns) :
    resolve k r ns star =
      (match r.nsCatch ns, r.fn star star, r.nsCls ns, r.cls star with
       | true,  _,     _,     _     => .invoke .fnNsStar [.ev]
       | false, true,  _,     _     => .invoke .fnStarStar [.ev, .ns]
       | false, false, true,  _     =>
         bif r.attr ns (methodName star) then .invoke .clsNs [] else .dropped .clsNs
       | false, false, false, true  =>
         bif r.attr star (methodName star) then .invoke .clsStar [.ns] else .dropped .clsStar
       | false, false, false, false => .notHandled) ∧
    (∀ pre, resolve k r ns star ≠ .invoke .fnNsEv pre ∧ resolve k r ns star ≠ .invoke .fnStarEv pre) := by
  rw [precedence k r ns star (reserved_lists.2.2.2 k), exact_star,
    show r.nsExact ns star = false by rw [Reg.nsExact, exact_star, Bool.and_false]]
  cases r.nsCatch ns
  case true => exact ⟨rfl, fun _ => ⟨nofun, nofun⟩⟩
  cases r.fn star star
  case true => exact ⟨rfl, fun _ => ⟨nofun, nofun⟩⟩
  cases r.nsCls ns
  case true => cases r.attr ns (methodName star) <;> exact ⟨rfl, fun _ => ⟨nofun, nofun⟩⟩
  cases r.cls star
  case true => cases r.attr star (methodName star) <;> exact ⟨rfl, fun _ => ⟨nofun, nofun⟩⟩
  exact ⟨rfl, fun _ => ⟨nofun, nofun⟩⟩

/-- **A namespace literally named `"*"`** (the default packet format cannot express one — a
    namespace starts with `/` — but a msgpack peer can send it) is routed like any other namespace
    that has nothing registered under its own name: NEVER as an exact namespace match, whatever is
    registered — to `handlers['*'][ev]` with `[ns]` prepended, else (non-reserved event) to
    `handlers['*']['*']` with `[ev, ns]`, else to the catch-all class-based namespace with `[ns]`.
    So the catch-all handlers always receive the namespace argument.  (Before /repo 74a0887 the
    first line was `invoke fnNsEv []`: the handler's namespace parameter received the sid.) -/
theorem star_namespace (k : Kind) (r : Reg) (ev : Ev) :
    resolve k r star ev =
      (match r.exact star ev, !(reservedOf k).contains ev && r.fn star star, r.cls star with
       | true,  _,     _     => .invoke .fnStarEv [.ns]
       | false, true,  _     => .invoke .fnStarStar [.ev, .ns]
       | false, false, true  =>
         bif r.attr star (methodName ev) then .invoke .clsStar [.ns] else .dropped .clsStar
       | false, false, false => .notHandled) ∧
    (∀ pre, resolve k r star ev ≠ .invoke .fnNsEv pre ∧ resolve k r star ev ≠ .invoke .fnNsStar pre ∧
            resolve k r star ev ≠ .invoke .clsNs pre) ∧
    resolve k r star ev ≠ .dropped .clsNs := by
  obtain ⟨h1, h2, h5⟩ := nsBits_star r ev
  rw [precedence_table, h1, h2, h5]
  simp only [table, Reg.hasMethod, Bool.false_and, Bool.and_comm (r.fn star star)]
  cases r.exact star ev
  case true => exact ⟨rfl, fun _ => ⟨nofun, nofun, nofun⟩, nofun⟩
  cases !(reservedOf k).contains ev && r.fn star star
  case true => exact ⟨rfl, fun _ => ⟨nofun, nofun, nofun⟩, nofun⟩
  cases r.cls star
  case true => cases r.attr star (methodName ev) <;> exact ⟨rfl, fun _ => ⟨nofun, nofun, nofun⟩, nofun⟩
  exact ⟨rfl, fun _ => ⟨nofun, nofun, nofun⟩, nofun⟩

/-- Every line of the table is reachable: for `ns ≠ "*"` the presence bits and the two "class has
    the method" bits are independent — some registry realises any combination (non-vacuity of
    `precedence`); for `ev = "*"` the two exact-event bits are necessarily false, the other six
    remain free.  (For `ns = "*"` the three exact-namespace bits are false: `nsBits_star`.) -/
theorem precedence_realizable (ns : Ns) (ev : Ev) (hns : ns ≠ star)
    (b1 b2 b3 b4 b5 b6 m5 m6 : Bool) :
    ∃ r : Reg, r.nsExact ns ev = (ev != star && b1) ∧ r.nsCatch ns = b2 ∧
      r.exact star ev = (ev != star && b3) ∧ r.fn star star = b4 ∧
      r.nsCls ns = b5 ∧ r.cls star = b6 ∧ r.attr ns (methodName ev) = m5 ∧
      r.attr star (methodName ev) = m6 := by
  refine ⟨{ fn := fun n e => if n = star then (if e = star then b4 else b3)
                              else (if e = star then b2 else b1),
            cls := fun n => if n = star then b6 else b5,
            attr := fun n _ => if n = star then m6 else m5 }, ?_⟩
  by_cases hev : ev = star <;> simp [Reg.exact, Reg.nsExact, Reg.nsCatch, Reg.nsCls, hns, hev]

/-- The result depends on the registry only through the eight bits of the table: whatever else is
    registered (other events of the same namespace, other namespaces, other attributes of the
    classes) is irrelevant. -/
theorem unrelated_irrelevant (k : Kind) (r r' : Reg) (ns : Ns) (ev : Ev)
    (h1 : r.nsExact ns ev = r'.nsExact ns ev) (h2 : r.nsCatch ns = r'.nsCatch ns)
    (h3 : r.exact star ev = r'.exact star ev) (h4 : r.fn star star = r'.fn star star)
    (h5 : r.nsCls ns = r'.nsCls ns) (h6 : r.cls star = r'.cls star)
    (h7 : r.attr ns (methodName ev) = r'.attr ns (methodName ev))
    (h8 : r.attr star (methodName ev) = r'.attr star (methodName ev)) :
    resolve k r ns ev = resolve k r' ns ev := by
  simp only [precedence_table, Reg.hasMethod, h1, h2, h3, h4, h5, h6, h7, h8]

/-! ### a function handler always wins over a class-based one -/

/-- the result is a call of a registered function -/
def isFnCall : Res → Bool
  | .invoke s _ => s.isFn
  | _ => false

/-- the result was decided by a class-based namespace (method called, or dropped for lack of it) -/
def isClassOutcome : Res → Bool
  | .invoke s _ => !s.isFn
  | .dropped s => !s.isFn
  | .notHandled => false

/-- the result is a call of one of the two catch-all *event* handlers -/
def isCatchAllEvent : Res → Bool
  | .invoke .fnNsStar _ => true
  | .invoke .fnStarStar _ => true
  | _ => false

/-- what `method_name` says about one result, as a Boolean (so that the table can be checked by
    evaluation) -/
def clsOk (b5 b6 m5 m6 : Bool) : Res → Bool
  | .invoke s p => s.isFn || (s == .clsNs && p == [] && b5 && m5) ||
      (s == .clsStar && p == [.ns] && !b5 && b6 && m6)
  | _ => true

/-- What the theorems below read off one result `t` of `table`; `f` is `eligibleFn` in terms of the
    bits. -/
structure RowFacts (t : Res) (f res b5 b6 m5 m6 : Bool) : Prop where
  fnCall : isFnCall t = f
  classOutcome : isClassOutcome t = (!f && (b5 || b6))
  notHandled : t = .notHandled ↔ f = false ∧ b5 = false ∧ b6 = false
  noFallthrough : f = false → b5 = true → m5 = false → t = .dropped .clsNs
  reserved : res = true → isCatchAllEvent t = false
  method : clsOk b5 b6 m5 m6 t = true

instance {t : Res} {f res b5 b6 m5 m6 : Bool} : Decidable (RowFacts t f res b5 b6 m5 m6) :=
  decidable_of_iff (_ ∧ _ ∧ _ ∧ _ ∧ _ ∧ _)
    ⟨fun ⟨a, b, c, d, e, g⟩ => ⟨a, b, c, d, e, g⟩, fun ⟨a, b, c, d, e, g⟩ => ⟨a, b, c, d, e, g⟩⟩

/-- one evaluation over the 2⁹ rows of `table` -/
theorem table_facts : ∀ res b1 b2 b3 b4 b5 b6 m5 m6 : Bool,
    RowFacts (table res b1 b2 b3 b4 b5 b6 m5 m6) (b1 || b3 || (!res && (b2 || b4))) res b5 b6 m5 m6 := by
  decide +kernel

/-- If any function handler is eligible, a registered function is what runs — whatever class-based
    namespaces are registered and whatever methods they have; and only then. -/
theorem function_beats_class (k : Kind) (r : Reg) (ns : Ns) (ev : Ev) :
    isFnCall (resolve k r ns ev) = eligibleFn (reservedOf k) r ns ev := by
  rw [precedence_table]; exact (table_facts ..).fnCall

/-- A class-based namespace decides the outcome exactly when no function handler is eligible and
    one of the two class-based namespaces is registered. -/
theorem class_only_without_function (k : Kind) (r : Reg) (ns : Ns) (ev : Ev) :
    isClassOutcome (resolve k r ns ev) =
      (!eligibleFn (reservedOf k) r ns ev && (r.nsCls ns || r.cls star)) := by
  rw [precedence_table]; exact (table_facts ..).classOutcome

/-- …and an event with no target is dropped (`notHandled`) exactly when nothing is eligible. -/
theorem not_handled_iff (k : Kind) (r : Reg) (ns : Ns) (ev : Ev) :
    resolve k r ns ev = .notHandled ↔
      (eligibleFn (reservedOf k) r ns ev = false ∧ r.nsCls ns = false ∧ r.cls star = false) := by
  rw [precedence_table]; exact (table_facts ..).notHandled

/-! ### reserved events -/

/-- A reserved event never reaches a catch-all *event* handler (`handlers[ns]['*']`,
    `handlers['*']['*']`), on any of the four classes, for any registry. -/
theorem reserved_never_catchall_event (k : Kind) (r : Reg) (ns : Ns) (ev : Ev)
    (hres : ev ∈ reservedOf k) (pre : List PArg) :
    resolve k r ns ev ≠ .invoke .fnNsStar pre ∧ resolve k r ns ev ≠ .invoke .fnStarStar pre := by
  have h := precedence_table k r ns ev ▸ (table_facts ..).reserved (List.contains_iff_mem.2 hres)
  constructor <;> (intro e; rw [e] at h; cases h)

/-- The statement's clause verbatim: connect / disconnect (/ connect_error on the client) are never
    routed to a catch-all event handler. -/
theorem connect_disconnect_never_catchall (k : Kind) (r : Reg) (ns : Ns) (ev : Ev)
    (hev : ev = "connect".toList ∨ ev = "disconnect".toList ∨
      (ev = "connect_error".toList ∧ (k = .client ∨ k = .asyncClient)))
    (pre : List PArg) :
    resolve k r ns ev ≠ .invoke .fnNsStar pre ∧ resolve k r ns ev ≠ .invoke .fnStarStar pre := by
  apply reserved_never_catchall_event
  rcases hev with h | h | ⟨h, hk | hk⟩
  · subst h; exact (reserved_lists.1 k).1
  · subst h; exact (reserved_lists.1 k).2
  · subst h; subst hk; exact reserved_lists.2.1
  · subst h; subst hk; exact reserved_lists.2.2.1

/-! ### server and client apply the same rules -/

/-- With the regenerated lists: client and server route an event identically whenever they agree on
    whether it is reserved (the lists differ by `connect_error` / `__disconnect_final`). -/
theorem client_eq_server_generated (r : Reg) (ns : Ns) (ev : Ev)
    (h : ev ∈ reservedOf .client ↔ ev ∈ reservedOf .server) :
    resolveClient r ns ev = resolveServer r ns ev := by
  have hc : (reservedOf .client).contains ev = (reservedOf .server).contains ev := by
    rw [Bool.eq_iff_iff]; simpa [List.contains_iff_mem] using h
  simp only [resolveClient, resolveServer, precedence_table, hc]

/-- asyncio classes resolve exactly like the threaded ones (their reserved lists are equal in the
    source as it is now). -/
theorem async_eq_sync :
    resolve .asyncServer = resolve .server ∧ resolve .asyncClient = resolve .client := by
  have h1 : Generated.asyncServerReserved = Generated.serverReserved := by decide
  have h2 : Generated.asyncClientReserved = Generated.clientReserved := by decide
  constructor <;> simp only [resolve, h1, h2]

/-! ### class-based namespaces: `on_<event>`, no fall-through -/

/-- A class-based target is the attribute `on_<event>` of the selected namespace object: the class
    slot is invoked only if *that* attribute exists on *that* object; the specific namespace gets no
    prefix, the catch-all namespace gets the namespace prepended. -/
theorem method_name (k : Kind) (r : Reg) (ns : Ns) (ev : Ev) (slot : Slot) (pre : List PArg)
    (h : resolve k r ns ev = .invoke slot pre) (hs : slot.isFn = false) :
    methodName ev = "on_".toList ++ ev ∧
    ((slot = .clsNs ∧ pre = [] ∧ r.nsCls ns = true ∧ r.attr ns ("on_".toList ++ ev) = true) ∨
     (slot = .clsStar ∧ pre = [.ns] ∧ r.nsCls ns = false ∧ r.cls star = true ∧
        r.attr star ("on_".toList ++ ev) = true)) := by
  have h' : clsOk (r.nsCls ns) (r.cls star) (r.hasMethod ns ev) (r.hasMethod star ev)
      (resolve k r ns ev) = true := by
    rw [precedence_table]; exact (table_facts ..).method
  rw [h] at h'
  simpa [clsOk, hs, Reg.hasMethod, methodName, and_assoc] using h'

/-- No fall-through (as coded): when the namespace has its own class-based namespace and that class
    lacks `on_<event>`, the event is dropped — the catch-all class-based namespace is not tried,
    even if it is registered and has the method. -/
theorem no_fallthrough (k : Kind) (r : Reg) (ns : Ns) (ev : Ev)
    (hf : eligibleFn (reservedOf k) r ns ev = false) (hc : r.nsCls ns = true)
    (hm : r.attr ns (methodName ev) = false) :
    resolve k r ns ev = .dropped .clsNs := by
  rw [precedence_table]; exact (table_facts ..).noFallthrough hf hc hm

/-! ### non-vacuity: concrete registries meeting the hypotheses -/

/-- a registry with a specific handler, both catch-all namespace handlers, and both class-based
    namespaces of which only the catch-all one has `on_msg` -/
def exReg : Reg where
  fn n e := (n = "/chat".toList ∧ e = "other".toList) ∨ (n = star ∧ (e = "msg".toList ∨ e = star))
  cls _ := true
  attr n a := n = star ∧ a = "on_msg".toList

example : resolveServer exReg "/chat".toList "msg".toList = .invoke .fnStarEv [.ns] := by decide +kernel
example : resolveClient exReg "/chat".toList "zzz".toList = .invoke .fnStarStar [.ev, .ns] := by decide +kernel
example : resolveClient exReg "/chat".toList "connect_error".toList = .dropped .clsNs := by decide +kernel
example : resolveServer exReg "/chat".toList "connect_error".toList
    = .invoke .fnStarStar [.ev, .ns] := by decide +kernel
-- an event literally named "*": catch-all WITH the event name (and namespace) prepended
example : resolveServer exReg "/chat".toList star = .invoke .fnStarStar [.ev, .ns] := by decide +kernel
example : resolveAsyncClient { exReg with fn := fun n e => n = "/chat".toList ∧ e = star } "/chat".toList star
    = .invoke .fnNsStar [.ev] := by decide +kernel
-- a namespace literally named "*": never an exact match, the namespace is prepended
example : resolveServer exReg star "msg".toList = .invoke .fnStarEv [.ns] := by decide +kernel
example : resolveAsyncClient exReg star "zzz".toList = .invoke .fnStarStar [.ev, .ns] := by decide +kernel
example : "msg".toList ∉ reservedOf .server ∧ "/chat".toList ≠ star ∧ "msg".toList ≠ star := by decide +kernel
example : eligibleFn (reservedOf .asyncClient) exReg "/chat".toList "connect".toList = false ∧
    exReg.cls "/chat".toList = true ∧ exReg.attr "/chat".toList (methodName "connect".toList) = false ∧
    exReg.cls star = true := by decide +kernel
example : resolve .asyncServer { exReg with fn := fun _ _ => false } "/x".toList "msg".toList
    = .dropped .clsNs := by decide +kernel
example : resolve .asyncServer { exReg with fn := fun _ _ => false, cls := fun n => n = star }
    "/x".toList "msg".toList = .invoke .clsStar [.ns] := by decide +kernel

end Sio.C13
