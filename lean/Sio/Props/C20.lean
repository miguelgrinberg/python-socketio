/-
  C20 — threaded server: concurrent terminations of one client.

  Model: Sio/Model/Sched.lean with `atomicGate = false` (threads): `check`
  (`is_connected` / `can_disconnect`) and `mark` (`pre_disconnect`) are two steps, any other task
  may run between them.  Pre-emption granularity: one step = one access of the server to the client
  manager / the transport layer / the application handler (DESIGN §4).

  FULL STATEMENT (properties.jsonl C20): for every schedule the handler runs exactly once, nobody
  raises, no trace remains.  It is FALSE for the code as it is (`full_statement_fails`, witnesses
  `race_double_call`, `race_raise_residue`, `race_lost_swallowed_residue`): known finding
  `gate-overlap` (DESIGN §6 F6).  What is proved is the statement restricted to the schedules in
  which no task opens a check…mark window on a namespace while another task's window on that
  namespace is open — `gateSerial st0 sched`, a decidable predicate of the schedule.

  The refusing CONNECT (`Server._handle_connect`, `if success is False:` — same code as the asyncio
  class: `is_connected`, `pre_disconnect`, send the refusal, `manager.disconnect`, no disconnect
  handler) is a task kind of the model (`refuse`) and the theorems below quantify over initial states
  that contain any number of them; its check…mark window counts for `gateSerial` like any other.
  (The threaded harness does not schedule refusing CONNECTs: for that kind the theorems are about
  the model only, tied to the code through the asyncio harness of C04.)
-/
import Sio.Lemmas.Sched
namespace Sio.C20
open Sio.Sched

/-- a prefix of a gate-serial schedule keeps the invariant -/
theorem serial_inv (st0 : St) (h0 : Init st0) (sched : List Nat)
    (hs : gateSerial st0 sched = true) : Inv st0.sh.mem (run false st0 sched) :=
  run_inv false st0 h0 sched (fun _ => gateSerial_admissible hs) sched (List.prefix_refl _)

/-- **Serial gates are safe** (partial: hypothesis `gateSerial`).  For every initial state (any
    number of terminating tasks of any kind, any namespaces) and every schedule of any length in
    which check…mark windows on one namespace do not overlap:
    the handler has run at most once per (sid, namespace) and no task has raised, nothing was
    swallowed — at every step; at quiescence every targeted namespace the sid was connected to
    has had exactly one handler call — or, when a refusing CONNECT won its gate, none and exactly
    one refusal; exactly one whenever no refusing CONNECT has the namespace on its list — and no
    trace of the sid remains (no room, not pending);
    namespaces the sid was not connected to and namespaces nobody targets are unaffected. -/
theorem gate_serial_partial (st0 : St) (h0 : Init st0) (sched : List Nat)
    (hs : gateSerial st0 sched = true) :
    (∀ n, ncalls (run false st0 sched) n ≤ 1)
    ∧ anyRaised (run false st0 sched) = false
    ∧ (run false st0 sched).sh.contained = 0
    ∧ (allDone (run false st0 sched) = true → ∀ n, st0.sh.mem n = true → targeted st0 n = true →
        residue (run false st0 sched) n = false ∧
        ((ncalls (run false st0 sched) n = 1 ∧ (run false st0 sched).sh.refusals n = 0 ∧
            ∃ k, k ≠ Kind.refuse ∧ (run false st0 sched).sh.marks n = [k]) ∨
         (ncalls (run false st0 sched) n = 0 ∧ (run false st0 sched).sh.refusals n = 1 ∧
            (run false st0 sched).sh.marks n = [Kind.refuse])) ∧
        (refuseTargets st0 n = false → ncalls (run false st0 sched) n = 1))
    ∧ (∀ n, st0.sh.mem n = false →
        ncalls (run false st0 sched) n = 0 ∧ residue (run false st0 sched) n = false)
    ∧ (∀ n, targeted st0 n = false →
        (run false st0 sched).sh.mem n = st0.sh.mem n ∧ ncalls (run false st0 sched) n = 0 ∧
        (run false st0 sched).sh.pend n = 0 ∧ (run false st0 sched).sh.refusals n = 0 ∧
        (run false st0 sched).sh.marks n = []) :=
  have hI := serial_inv st0 h0 sched hs
  ⟨inv_calls_le hI, inv_anyRaised hI, hI.noContained,
    quiescent_ended h0
      (run_inv false st0 h0 sched fun _ => gateSerial_admissible hs),
    inv_never hI, fun _ => untargeted false h0 sched⟩

/-- the statement as it was before refusing CONNECTs were modelled: when no task is a refusing
    CONNECT, "exactly one handler call" at quiescence, unconditionally -/
theorem gate_serial_causes_only (st0 : St) (h0 : Init st0) (sched : List Nat)
    (hs : gateSerial st0 sched = true) (hk : ∀ t ∈ st0.tasks, t.kind ≠ .refuse)
    (hd : allDone (run false st0 sched) = true) (n : Ns) (hm : st0.sh.mem n = true)
    (ht : targeted st0 n = true) :
    ncalls (run false st0 sched) n = 1 ∧ residue (run false st0 sched) n = false := by
  obtain ⟨_, _, _, h4, _, _⟩ := gate_serial_partial st0 h0 sched hs
  obtain ⟨q1, _, q3⟩ := h4 hd n hm ht
  exact ⟨q3 (refuseTargets_false.mpr fun t htm h => hk t htm h.1), q1⟩

/-- (partial: `gateSerial`) once a refusing CONNECT has passed the gate of `n`, no gate-serial
    continuation adds a disconnect-handler call for `n` -/
theorem serial_refused_never_notified_after (st0 : St) (h0 : Init st0) (s1 s2 : List Nat) (n : Ns)
    (hs : gateSerial st0 (s1 ++ s2) = true)
    (h : (run false st0 s1).tasks.any (refusedPast n) = true ∨
         Kind.refuse ∈ (run false st0 s1).sh.marks n) :
    (run false st0 (s1 ++ s2)).sh.calls n = [] ∧
    (run false st0 (s1 ++ s2)).sh.marks n = [Kind.refuse] := by
  have hI := run_inv false st0 h0 (s1 ++ s2) fun _ => gateSerial_admissible hs
  exact refused_never_notified (hI s1 (List.prefix_append s1 s2))
    (hI _ (List.prefix_refl _)) h

/-- (partial: `gateSerial`) **the reason is the gate winner's**, at every step of a gate-serial
    schedule: when the handler of `n` has been invoked with reason `k`, the one task that passed the
    gate of `n` is of kind `k`. -/
theorem serial_reason_is_gate_winner (st0 : St) (h0 : Init st0) (sched : List Nat)
    (hs : gateSerial st0 sched = true) (n : Ns) (k : Kind) :
    (run false st0 sched).sh.calls n = [k] → (run false st0 sched).sh.marks n = [k] :=
  fun hc => ((calls_follow h0 (serial_inv st0 h0 sched hs) n).2 k
    (hc ▸ List.mem_singleton_self k)).2.2

/-- (partial: `gateSerial`) **the handler calls follow the gate record**: `calls n` is `marks n`
    without refusals as soon as no passing task is still between its `pre_disconnect` and its
    `_trigger_event` (`cnt … 2 = 0`), empty before; so empty or equal to `marks n`, a sublist of
    it; every recorded reason `k` is not a refusal, `calls n = [k]` and `marks n = [k]`. -/
theorem serial_reason_follows_gate (st0 : St) (h0 : Init st0) (sched : List Nat)
    (hs : gateSerial st0 sched = true) (n : Ns) : CallsFollowMarks (run false st0 sched) n :=
  calls_follow h0 (serial_inv st0 h0 sched hs) n

/-- (partial: `gateSerial`) **the reason names a cause in progress**: every reason `k` recorded for
    `n` is not a refusal and is the kind of a task `i` of the initial state with `n` on its list (so
    `n` is targeted) that, along the schedule, first executed `pre_disconnect(sid, n)` and later made
    the call. -/
theorem serial_reason_names_cause_in_progress (st0 : St) (h0 : Init st0) (sched : List Nat)
    (hs : gateSerial st0 sched = true) (n : Ns) (k : Kind)
    (hk : k ∈ (run false st0 sched).sh.calls n) :
    k ≠ Kind.refuse ∧ targeted st0 n = true ∧
    ∃ i t0, st0.tasks[i]? = some t0 ∧ t0.kind = k ∧ n ∈ t0.todo ∧
      passedGate false st0 sched i n k ∧ ranHandler false st0 sched i n k :=
  reason_cause h0 (serial_inv st0 h0 sched hs) hk

/-- **Without the `gateSerial` hypothesis** — for EVERY threaded schedule, the racing ones
    included — the provenance half still holds: every recorded reason `k` is on the gate record of
    `n`, and is the kind of a task of the initial state with `n` on its list that passed the gate of
    `n` and then made the call; with `connAtStart` it is one of the three terminating kinds.  (What the
    race breaks is uniqueness: in `race_double_call` both `api` and `clientDisc` passed and both
    called.) -/
theorem reason_names_passing_task_any_schedule (st0 : St) (h0 : Init st0) (sched : List Nat)
    (n : Ns) (k : Kind) (hk : k ∈ (run false st0 sched).sh.calls n) :
    k ∈ (run false st0 sched).sh.marks n ∧
    (∃ i t0, st0.tasks[i]? = some t0 ∧ t0.kind = k ∧ n ∈ t0.todo ∧
      passedGate false st0 sched i n k ∧ ranHandler false st0 sched i n k) ∧
    (connAtStart st0 → k = .api ∨ k = .clientDisc ∨ k = .lost) :=
  have ⟨h1, h2⟩ := reason_provenance h0 hk
  ⟨h1, h2, fun hc => reason_kind h0 hc hk⟩

/-- non-vacuity: `disconnect()` first with serial gates — reason and gate record are `[.api]`, with
    explicit witnesses of the gate passage (task 0's step after `[0]`) and of the handler call (its
    step after `[0, 0, 1, 0]`); mid-schedule (`[0, 0]`: marked, on the way to the handler) `calls`
    is still empty; and in the racing schedule of `race_double_call` both reasons are on the gate
    record -/
example :
    let st0 := mkSt [(.api, [0]), (.clientDisc, [0])] [0] []
    gateSerial st0 [0, 0, 1, 0, 0, 0] = true
    ∧ (run false st0 [0, 0, 1, 0, 0, 0]).sh.calls 0 = [.api]
    ∧ (run false st0 [0, 0, 1, 0, 0, 0]).sh.marks 0 = [.api]
    ∧ cnt (run false st0 [0, 0]) 0 2 = 1 ∧ (run false st0 [0, 0]).sh.calls 0 = []
    ∧ (run false st0 [0, 0]).sh.marks 0 = [.api]
    ∧ (run false st0 [0, 1, 0, 1, 0, 0, 1, 0, 1]).sh.calls 0 = [.clientDisc, .api]
    ∧ (run false st0 [0, 1, 0, 1, 0, 0, 1, 0, 1]).sh.marks 0 = [.clientDisc, .api]
    ∧ connAtStart st0 := by unfold connAtStart; decide

example :
    let st0 := mkSt [(.api, [0]), (.clientDisc, [0])] [0] []
    passedGate false st0 [0, 0, 1, 0, 0, 0] 0 0 .api
    ∧ ranHandler false st0 [0, 0, 1, 0, 0, 0] 0 0 .api := by
  intro st0
  have hg : marksAt false (run false st0 [0]) 0 0 .api :=
    ⟨⟨.api, [0], .mark⟩, by decide, rfl, rfl, by decide⟩
  exact ⟨⟨[0], ⟨[1, 0, 0, 0], rfl⟩, hg⟩,
    ⟨[0, 0, 1, 0], ⟨[0], rfl⟩, ⟨⟨.api, [0], .handler⟩, by decide, rfl, rfl, by decide⟩,
      ⟨[0], ⟨[1, 0], rfl⟩, hg⟩⟩⟩

/-- a refusing CONNECT (task 0: handler decides, check, mark, send, cleanup) and `disconnect()`
    (task 1) with serial gates, the refusal first: no handler call, one refusal; and the hypotheses
    of `serial_refused_never_notified_after` are met after the prefix `[0, 0, 0]` -/
example :
    let st0 := mkSt [(.refuse, [0]), (.api, [0])] [0] []
    gateSerial st0 ([0, 0, 0] ++ [1, 0, 0]) = true
    ∧ (run false st0 [0, 0, 0]).tasks.any (refusedPast 0) = true
    ∧ allDone (run false st0 ([0, 0, 0] ++ [1, 0, 0])) = true
    ∧ (run false st0 ([0, 0, 0] ++ [1, 0, 0])).sh.calls 0 = []
    ∧ (run false st0 ([0, 0, 0] ++ [1, 0, 0])).sh.refusals 0 = 1 := by decide

/-- windows on DIFFERENT namespaces may overlap freely: the hypothesis is per namespace -/
example :
    let st0 := mkSt [(.api, [0]), (.clientDisc, [1])] [0, 1] []
    gateSerial st0 [0, 1, 0, 1, 0, 1, 0, 1, 0] = true
    ∧ allDone (run false st0 [0, 1, 0, 1, 0, 1, 0, 1, 0]) = true := by decide

/-- `disconnect(sid)` (task 0) and the client's DISCONNECT packet (task 1), sid connected to
    namespace 0 only and alone in it -/
def two : St := mkSt [(.api, [0]), (.clientDisc, [0])] [0] []

/-- the same with another client connected to the namespace -/
def twoShared : St := mkSt [(.api, [0]), (.clientDisc, [0])] [0] [0]

/-- transport loss (task 1) instead of the DISCONNECT packet -/
def twoLost : St := mkSt [(.api, [0]), (.lost, [0])] [0] []

example : Init two := mkSt_init _ _ _

example : ∀ t ∈ two.tasks, t.kind ≠ .refuse := by decide

/-- Both pass `check` before either executes `mark`: the application's disconnect handler runs
    TWICE for the same sid; the second `manager.disconnect` finds the namespace gone and returns
    early, so the sid stays listed in `pending_disconnect` forever. -/
theorem race_double_call :
    gateSerial two [0, 1, 0, 1, 0, 0, 1, 0, 1] = false
    ∧ allDone (run false two [0, 1, 0, 1, 0, 0, 1, 0, 1]) = true
    ∧ ncalls (run false two [0, 1, 0, 1, 0, 0, 1, 0, 1]) 0 = 2
    ∧ (run false two [0, 1, 0, 1, 0, 0, 1, 0, 1]).sh.calls 0 = [.clientDisc, .api]
    ∧ anyRaised (run false two [0, 1, 0, 1, 0, 0, 1, 0, 1]) = false
    ∧ (run false two [0, 1, 0, 1, 0, 0, 1, 0, 1]).sh.pend 0 = 1 := by decide

/-- with another client in the namespace the double call leaves no residue — it is silent -/
theorem race_double_call_silent :
    allDone (run false twoShared [0, 1, 0, 1, 0, 0, 1, 0, 1]) = true
    ∧ ncalls (run false twoShared [0, 1, 0, 1, 0, 0, 1, 0, 1]) 0 = 2
    ∧ anyRaised (run false twoShared [0, 1, 0, 1, 0, 0, 1, 0, 1]) = false
    ∧ residue (run false twoShared [0, 1, 0, 1, 0, 0, 1, 0, 1]) 0 = false := by decide

/-- Task 1 passes `check`; `disconnect()` (task 0) runs to completion; task 1's `pre_disconnect`
    appends the sid to `pending_disconnect['/']` and then raises `KeyError('/')`: the handler ran
    once, but a thread raised and the pending entry is never removed. -/
theorem race_raise_residue :
    gateSerial two [1, 0, 0, 0, 0, 0, 1] = false
    ∧ allDone (run false two [1, 0, 0, 0, 0, 0, 1]) = true
    ∧ ncalls (run false two [1, 0, 0, 0, 0, 0, 1]) 0 = 1
    ∧ anyRaised (run false two [1, 0, 0, 0, 0, 0, 1]) = true
    ∧ (run false two [1, 0, 0, 0, 0, 0, 1]).sh.pend 0 = 1
    ∧ residue (run false two [1, 0, 0, 0, 0, 0, 1]) 0 = true := by decide

/-- the same window entered by the transport-loss path: the `KeyError` is swallowed and logged by
    `_handle_eio_disconnect`, nobody raises, but the pending entry stays -/
theorem race_lost_swallowed_residue :
    gateSerial twoLost [1, 0, 0, 0, 0, 0, 1] = false
    ∧ allDone (run false twoLost [1, 0, 0, 0, 0, 0, 1]) = true
    ∧ ncalls (run false twoLost [1, 0, 0, 0, 0, 0, 1]) 0 = 1
    ∧ anyRaised (run false twoLost [1, 0, 0, 0, 0, 0, 1]) = false
    ∧ (run false twoLost [1, 0, 0, 0, 0, 0, 1]).sh.contained = 1
    ∧ residue (run false twoLost [1, 0, 0, 0, 0, 0, 1]) 0 = true := by decide

/-- The full statement of C20 — without the `gateSerial` hypothesis — is false for this code. -/
theorem full_statement_fails :
    ¬ (∀ (st0 : St) (sched : List Nat), Init st0 → allDone (run false st0 sched) = true →
        (∀ n, ncalls (run false st0 sched) n ≤ 1) ∧ anyRaised (run false st0 sched) = false ∧
        (∀ n, residue (run false st0 sched) n = false)) := by
  intro h
  have := (h two _ (mkSt_init _ _ _) race_double_call.2.1).1 0
  rw [race_double_call.2.2.1] at this
  exact absurd this (by decide)

/-- the same two tasks, gate-serial schedules of both orders: the hypothesis of
    `gate_serial_partial` is met and its conclusion is not vacuous -/
example : gateSerial two [0, 0, 1, 0, 0, 0] = true
    ∧ allDone (run false two [0, 0, 1, 0, 0, 0]) = true
    ∧ (run false two [0, 0, 1, 0, 0, 0]).sh.calls 0 = [.api] := by decide

example : gateSerial two [1, 1, 0, 1, 1] = true
    ∧ allDone (run false two [1, 1, 0, 1, 1]) = true
    ∧ (run false two [1, 1, 0, 1, 1]).sh.calls 0 = [.clientDisc] := by decide

/-- three actions incl. a transport loss over two namespaces and the disconnect of the other
    namespace of the same transport, serial gates -/
example :
    let st0 := mkSt [(.api, [0]), (.lost, [0, 1]), (.clientDisc, [1])] [0, 1] []
    gateSerial st0 [2, 2, 0, 0, 1, 1, 2, 0, 2, 0, 0] = true
    ∧ allDone (run false st0 [2, 2, 0, 0, 1, 1, 2, 0, 2, 0, 0]) = true
    ∧ ncalls (run false st0 [2, 2, 0, 0, 1, 1, 2, 0, 2, 0, 0]) 0 = 1
    ∧ ncalls (run false st0 [2, 2, 0, 0, 1, 1, 2, 0, 2, 0, 0]) 1 = 1 := by decide

end Sio.C20
