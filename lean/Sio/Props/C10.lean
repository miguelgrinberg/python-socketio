/-
  C10 — Client reconnection: only after accidental loss, bounded back-off and attempts.

  Statements about `Sio.Reconnect.reconnect` (the transcription of `_handle_reconnect`), about the
  decision taken in `_handle_eio_disconnect`, and about the event layout of one effort.
  Indices are 0-based: `waits[k]` is the timeout of the (k+1)-th back-off wait, which precedes the
  (k+1)-th attempt, so the property's `2**(k-1)` reads `2^k` here.  Nothing is bounded: the
  scripts `outcomes`, `rands` are arbitrary functions, `fuel` (how long the effort is observed) is
  arbitrary.
-/
import Sio.Lemmas.Reconnect
namespace Sio.C10
open Sio.Reconnect

variable (cfg : Cfg) (o : Nat → Bool) (r : Nat → Q) (a : Option Nat) (fuel : Nat)

/-! ### back-off -/

/-- The (k+1)-th wait is `min(delay·2^k, delay_max) + rf·(2·random_k − 1)`, exactly. -/
theorem delay (k : Nat) (w : Q) (h : (reconnect cfg o r a fuel).waits[k]? = some w) :
    w = min (cfg.delay * 2 ^ k) cfg.delayMax + cfg.rf * (2 * r k - 1) := by
  rw [loop_waits cfg o r a fuel 0 cfg.delay k w h, waitOf, capped_eq_min, jitter, Nat.zero_add]

/-- `rf·(2x − 1)` stays within `± rf` for `x` in `[0, 1]`. -/
theorem jitter_bounds {rf x : Q} (hrf : 0 ≤ rf) (h0 : 0 ≤ x) (h1 : x ≤ 1) :
    -rf ≤ rf * (2 * x - 1) ∧ rf * (2 * x - 1) ≤ rf := by
  have hlo : rf * (-1) ≤ rf * (2 * x - 1) := Rat.mul_le_mul_of_nonneg_left (by grind) hrf
  have hhi : rf * (2 * x - 1) ≤ rf * 1 := Rat.mul_le_mul_of_nonneg_left (by grind) hrf
  rw [Rat.mul_neg, Rat.mul_one] at hlo
  rw [Rat.mul_one] at hhi
  exact ⟨hlo, hhi⟩

/-- Hence, for a non-negative factor and `random()` in `[0, 1]`, it is within `± rf` of the
    capped doubled delay.  (The value is handed to `Event.wait` / `asyncio.wait_for` as it is; when
    `rf` exceeds the capped delay it can be negative, which both primitives treat as "do not wait":
    see `negative_wait_possible`.) -/
theorem delay_within (k : Nat) (w : Q) (h : (reconnect cfg o r a fuel).waits[k]? = some w)
    (hrf : 0 ≤ cfg.rf) (h0 : 0 ≤ r k) (h1 : r k ≤ 1) :
    min (cfg.delay * 2 ^ k) cfg.delayMax - cfg.rf ≤ w ∧
    w ≤ min (cfg.delay * 2 ^ k) cfg.delayMax + cfg.rf := by
  have hj := jitter_bounds hrf h0 h1
  rw [delay cfg o r a fuel k w h, Rat.sub_eq_add_neg]
  exact ⟨Rat.add_le_add_left.2 hj.1, Rat.add_le_add_left.2 hj.2⟩

/-- `random()` never returns 1, so the upper end is not reached when `rf > 0`. -/
theorem delay_below (k : Nat) (w : Q) (h : (reconnect cfg o r a fuel).waits[k]? = some w)
    (hrf : 0 < cfg.rf) (h1 : r k < 1) :
    w < min (cfg.delay * 2 ^ k) cfg.delayMax + cfg.rf := by
  have hj : cfg.rf * (2 * r k - 1) < cfg.rf * 1 := Rat.mul_lt_mul_of_pos_left (by grind) hrf
  rw [Rat.mul_one] at hj
  rw [delay cfg o r a fuel k w h]
  exact Rat.add_lt_add_left.2 hj

/-- The wait never exceeds the cap plus the factor, however long the effort lasts. -/
theorem delay_capped (k : Nat) (w : Q) (h : (reconnect cfg o r a fuel).waits[k]? = some w)
    (hrf : 0 ≤ cfg.rf) (h0 : 0 ≤ r k) (h1 : r k ≤ 1) : w ≤ cfg.delayMax + cfg.rf :=
  Rat.le_trans (delay_within cfg o r a fuel k w h hrf h0 h1).2
    (Rat.add_le_add_right.2 Std.min_le_right)

/-- When the factor does not exceed the capped delay the timeout is not negative. -/
theorem delay_nonneg (k : Nat) (w : Q) (h : (reconnect cfg o r a fuel).waits[k]? = some w)
    (hrf : 0 ≤ cfg.rf) (h0 : 0 ≤ r k) (h1 : r k ≤ 1)
    (hsmall : cfg.rf ≤ min (cfg.delay * 2 ^ k) cfg.delayMax) : 0 ≤ w :=
  Rat.le_trans ((Rat.le_iff_sub_nonneg _ _).1 hsmall) (delay_within cfg o r a fuel k w h hrf h0 h1).1

-- non-vacuity of the hypotheses of `delay_within`/`delay_nonneg`: the library defaults
example : (0:Q) ≤ (1/2 : Q) ∧ (1/2 : Q) ≤ min ((1:Q) * 2 ^ 0) 5 := by decide +kernel

def cfgEx : Cfg := ⟨true, 3, 1, 5, 1/2⟩
def cfgInf : Cfg := ⟨true, 0, 1/4, 1, 1⟩

-- non-vacuity: the defaults (1 s, cap 5 s, factor ½), three failures, random() = ¼, ¾, ½
example : (reconnect cfgEx (fun _ => false) (fun k => if k = 0 then 1/4 else if k = 1 then 3/4 else 1/2)
    none 10).waits = [3/4, 9/4, 4] := by decide +kernel
-- the cap is strict `>`: a delay equal to the cap is left alone, the next one is cut
example : (reconnect ⟨true, 0, 1, 4, 0⟩ (fun _ => false) (fun _ => 0) none 5).waits = [1, 2, 4, 4, 4] := by
  decide +kernel
/-- with `rf` above the capped delay the computed timeout can be negative -/
theorem negative_wait_possible :
    (reconnect cfgInf (fun _ => false) (fun _ => 0) none 1).waits = [-3/4] := by decide +kernel

/-! ### the back-off grows -/

/-- before jitter, the back-off never shrinks from one attempt to the next -/
theorem base_monotone (hd : 0 ≤ cfg.delay) (k : Nat) :
    min (cfg.delay * 2 ^ k) cfg.delayMax ≤ min (cfg.delay * 2 ^ (k + 1)) cfg.delayMax := by
  have h0 : 0 ≤ cfg.delay * 2 ^ k := Rat.mul_nonneg hd (Rat.pow_nonneg (by decide +kernel))
  have hle : cfg.delay * 2 ^ k ≤ cfg.delay * 2 ^ (k + 1) := by
    rw [Rat.pow_succ, ← Rat.mul_assoc]; grind
  exact Std.le_min_iff.2 ⟨Rat.le_trans Std.min_le_left hle, Std.min_le_right⟩

/-- without jitter (`randomization_factor = 0`) successive waits never decrease -/
theorem waits_monotone_no_jitter (hrf : cfg.rf = 0) (hd : 0 ≤ cfg.delay) (k : Nat) (w w' : Q)
    (h : (reconnect cfg o r a fuel).waits[k]? = some w)
    (h' : (reconnect cfg o r a fuel).waits[k+1]? = some w') : w ≤ w' := by
  rw [delay cfg o r a fuel k w h, delay cfg o r a fuel (k+1) w' h', hrf, Rat.zero_mul, Rat.zero_mul,
    Rat.add_zero, Rat.add_zero]
  exact base_monotone cfg hd k

/-- with jitter, a later wait undercuts an earlier one by at most twice the factor -/
theorem waits_monotone_up_to_jitter (hrf : 0 ≤ cfg.rf) (hd : 0 ≤ cfg.delay) (k : Nat) (w w' : Q)
    (h : (reconnect cfg o r a fuel).waits[k]? = some w)
    (h' : (reconnect cfg o r a fuel).waits[k+1]? = some w')
    (h0 : 0 ≤ r k) (h1 : r k ≤ 1) (h0' : 0 ≤ r (k+1)) (h1' : r (k+1) ≤ 1) :
    w - 2 * cfg.rf ≤ w' := by
  have ha := (delay_within cfg o r a fuel k w h hrf h0 h1).2
  have hb := (delay_within cfg o r a fuel (k+1) w' h' hrf h0' h1').1
  have := base_monotone cfg hd k
  grind

-- non-vacuity: the library defaults without jitter, four failures: 1, 2, 4, 5 (capped)
example : (reconnect ⟨true, 0, 1, 5, 0⟩ (fun _ => false) (fun _ => 1/2) none 4).waits = [1, 2, 4, 5] := by
  decide +kernel

/-! ### number of attempts -/

/-- A limit `N > 0` is never exceeded. -/
theorem attempts_bounded (hN : cfg.attempts > 0) : (reconnect cfg o r a fuel).attempts ≤ cfg.attempts :=
  loop_attempts_le cfg o r a fuel 0 cfg.delay hN

/-- Giving up happens only when the limit is reached — and then after exactly `N` attempts. -/
theorem gave_up_exactly (h : (reconnect cfg o r a fuel).final = .gaveUp) :
    cfg.attempts ≠ 0 ∧ (reconnect cfg o r a fuel).attempts = cfg.attempts := by
  have ⟨h1, h2⟩ := (loop_final_sound cfg o r a fuel 0 cfg.delay).2 h
  have := loop_attempts_le cfg o r a fuel 0 cfg.delay (by omega)
  exact ⟨h1, by unfold reconnect; omega⟩

-- non-vacuity: limit 3, everything fails: exactly 3 attempts, then the effort gives up
example : (reconnect cfgEx (fun _ => false) (fun _ => 1/2) none 10).attempts = 3 ∧
    (reconnect cfgEx (fun _ => false) (fun _ => 1/2) none 10).final = .gaveUp := by decide

/-- `reconnection_attempts = 0`: if every attempt fails and nobody aborts, then for every `n` the
    effort makes an `n`-th attempt and is still running afterwards (it never gives up). -/
theorem unbounded_when_zero (h0 : cfg.attempts = 0) (ho : ∀ k, o k = false) (n : Nat) :
    (reconnect cfg o r none n).attempts = n ∧ (reconnect cfg o r none n).final = .running ∧
    (reconnect cfg o r none n).waits.length = n := by
  have := loop_unbounded cfg o r h0 ho n 0 cfg.delay
  simpa [reconnect] using this

example : (reconnect cfgInf (fun _ => false) (fun _ => 1/2) none 25).attempts = 25 := by decide

/-- Every attempt is preceded by exactly one wait; an abort adds the interrupted wait. -/
theorem one_wait_per_attempt :
    (reconnect cfg o r a fuel).waits.length =
      (reconnect cfg o r a fuel).attempts + (if (reconnect cfg o r a fuel).final = .aborted then 1 else 0) := by
  unfold reconnect
  exact loop_waits_length cfg o r a fuel 0 cfg.delay

/-! ### end of the effort -/

/-- The effort stops at the first success: if attempt `j` is the first to succeed and neither the
    limit nor an abort intervenes earlier, exactly `j+1` attempts are made and the effort ends
    connected. -/
theorem stops_at_first_success (j : Nat) (hf : j < fuel)
    (hfail : ∀ i, i < j → o i = false) (hsucc : o j = true)
    (hab : ∀ i, i ≤ j → a ≠ some i) (hN : cfg.attempts = 0 ∨ j < cfg.attempts) :
    (reconnect cfg o r a fuel).attempts = j + 1 ∧ (reconnect cfg o r a fuel).final = .connected ∧
    (reconnect cfg o r a fuel).waits.length = j + 1 := by
  have := loop_first_success cfg o r a fuel 0 cfg.delay j (Nat.zero_le _) (by omega)
    (fun i _ h => hfail i h) hsucc (fun i _ h => hab i h) hN
  simpa [reconnect] using this

/-- Conversely an effort that ended connected made its last attempt successfully and every earlier
    one failed: there is no attempt after a success. -/
theorem connected_is_first_success (h : (reconnect cfg o r a fuel).final = .connected) :
    0 < (reconnect cfg o r a fuel).attempts ∧ o ((reconnect cfg o r a fuel).attempts - 1) = true ∧
    ∀ i, i + 1 < (reconnect cfg o r a fuel).attempts → o i = false := by
  have ⟨h1, h2, h3⟩ := loop_connected_sound cfg o r a fuel 0 cfg.delay h
  exact ⟨h1, h2, fun i hi => h3 i (Nat.zero_le _) hi⟩

example : (reconnect cfgEx (fun k => k == 1) (fun _ => 1/2) none 10).attempts = 2 ∧
    (reconnect cfgEx (fun k => k == 1) (fun _ => 1/2) none 10).final = .connected := by decide

/-- An abort (shutdown) observed by the (k+1)-th wait ends the effort with exactly `k` attempts
    — the ones made before — and no more. -/
theorem abort_stops (k : Nat) (ha : a = some k) (hf : k < fuel)
    (hfail : ∀ i, i < k → o i = false) (hN : cfg.attempts = 0 ∨ k < cfg.attempts) :
    (reconnect cfg o r a fuel).attempts = k ∧ (reconnect cfg o r a fuel).final = .aborted ∧
    (reconnect cfg o r a fuel).waits.length = k + 1 := by
  have := loop_abort cfg o r a fuel 0 cfg.delay k ha (Nat.zero_le _) (by omega)
    (fun i _ h => hfail i h) hN
  simpa [reconnect] using this

/-- Unconditionally: with an abort pending at wait `k+1` there are never more than `k` attempts. -/
theorem abort_caps (k : Nat) (ha : a = some k) : (reconnect cfg o r a fuel).attempts ≤ k :=
  loop_abort_le cfg o r a fuel 0 cfg.delay k ha (Nat.zero_le _)

/-- An effort ends aborted only if the abort was observed by the wait that follows its last attempt. -/
theorem aborted_only_by_abort (h : (reconnect cfg o r a fuel).final = .aborted) :
    a = some (reconnect cfg o r a fuel).attempts :=
  (loop_final_sound cfg o r a fuel 0 cfg.delay).1 h

example : (reconnect cfgInf (fun _ => false) (fun _ => 1/2) (some 2) 10).attempts = 2 ∧
    (reconnect cfgInf (fun _ => false) (fun _ => 1/2) (some 2) 10).final = .aborted ∧
    (reconnect cfgInf (fun _ => false) (fun _ => 1/2) (some 2) 10).waits.length = 3 := by decide

/-! ### same parameters, handlers again -/

section layout
variable {P : Type} (s : Stored P) (outs : Nat → Outcome)

/-- Every `connect()` of the effort is called with what the last `connect()` stored: url, headers,
    auth, transports, socketio_path (`s.conn`) and namespaces (`s.nss`), unchanged. -/
theorem same_parameters (p : Stored P) (h : Ev.attempt p ∈ (effort cfg s outs r a fuel).2) : p = s := by
  unfold effort at h
  simp only [List.mem_append] at h
  cases h with
  | inl h => exact body_attempts cfg s outs _ _ 0 p h
  | inr h => exact absurd h (final_no_attempt _ _ p)

/-- …and there are exactly as many `connect()` calls in the trace as the policy counts. -/
theorem attempts_in_trace :
    countAttempts (effort cfg s outs r a fuel).2 = (effort cfg s outs r a fuel).1.attempts := by
  unfold effort
  simp only [countAttempts_append, countAttempts_final]
  have hl := one_wait_per_attempt cfg (fun k => (outs k).success s.nss) r a fuel
  rw [countAttempts_body]
  omega

/-- After the successful attempt the `connect` handler runs again for every stored namespace:
    the events of a successful `connect()` are exactly one `connect` invocation per namespace. -/
theorem handlers_again (oc : Outcome) (h : oc.success s.nss = true) (i : Nat) (n : Ns)
    (hn : s.nss[i]? = some n) :
    (Ev.handler .connect n : Ev P) ∈ attemptEvents cfg s.nss oc := by
  cases oc with
  | served acc =>
    have hacc : accepted acc i = true :=
      List.all_eq_true.1 h i (List.mem_range.2 (List.getElem?_eq_some_iff.1 hn).1)
    refine List.mem_append_left _ (List.mem_map.2 ⟨(i, n), ?_, ?_⟩)
    · simpa using mem_enum s.nss 0 i n hn
    · show Ev.handler (if accepted acc i = true then HName.connect else HName.connectError) n = _
      rw [hacc]; rfl
  | _ => cases h

/-- When the effort gives up or is aborted, `__disconnect_final` is invoked for every stored namespace. -/
theorem final_handlers (f : Final) (hf : f = .gaveUp ∨ f = .aborted) (n : Ns) (hn : n ∈ s.nss) :
    (Ev.handler .disconnectFinal n : Ev P) ∈ finalEvents s.nss f := by
  rcases hf with rfl | rfl <;> simp [finalEvents, hn]

end layout

/-! ### when an effort starts -/

/-- The decision of `_handle_eio_disconnect`. -/
theorem decision (st : EioState) (task : Bool) :
    startsEffort cfg st task = true ↔ cfg.reconnection = true ∧ st = .connected ∧ task = false := by
  cases st <;> cases task <;> simp [startsEffort, willReconnect]

/-- With engine.io's contract (`eioStateDuring`): only an accidental loss starts an effort — never
    `disconnect()`, a server DISCONNECT of the last namespace, or a server-side close. -/
theorem only_accidental (c : Cause) (task : Bool)
    (h : startsEffort cfg (eioStateDuring c) task = true) : c = .transportError := by
  cases c <;> simp [startsEffort, willReconnect, eioStateDuring] at h ⊢

/-- …and an accidental loss does start one when reconnection is enabled and none is running. -/
theorem accidental_starts (hr : cfg.reconnection = true) :
    startsEffort cfg (eioStateDuring .transportError) false = true := by
  simp [startsEffort, willReconnect, eioStateDuring, hr]

/-- Reconnection disabled: never. -/
theorem disabled_never (hr : cfg.reconnection = false) (st : EioState) (task : Bool) :
    startsEffort cfg st task = false := by
  simp [startsEffort, willReconnect, hr]

/-- One effort at a time: while one is running no notification starts another. -/
theorem one_at_a_time (st : EioState) : startsEffort cfg st true = false := by
  simp [startsEffort]

/-- Whatever engine.io notifies while an attempt of the running effort is under way (the
    transport lost again inside the attempt, or the `disconnect()` that `connect()` itself issues
    after a refusal) starts no second effort. -/
theorem nested_notifications_start_nothing {P : Type} (nss : List Ns) (oc : Outcome) (st : EioState)
    (b : Bool) (h : (Ev.notified st b : Ev P) ∈ attemptEvents cfg nss oc) : b = false := by
  cases oc with
  | served acc =>
    simp only [attemptEvents, List.mem_append, List.mem_map] at h
    cases h with
    | inl h => obtain ⟨x, _, hx⟩ := h; cases hx
    | inr h =>
      split at h
      · simp at h
      · simp [startsEffort] at h; exact h.2
  | transport => simp [attemptEvents] at h
  | lost => simp [attemptEvents, startsEffort] at h; exact h.2

/-! ### over a whole client history

  FULL-STRENGTH STATEMENT (what the property says, and what is FALSE on the code as it is):

      theorem next_loss_starts_effort (c0 c : Cli P) (is : List (Input P)) (evs : List (Ev P))
          (h0 : c0.task = false) (hrun : run c0 is = some (c, evs))
          (hdone : no effort of the history is still running)
          (hr : c.cfg.reconnection = true) :
          startsEffort c.cfg (eioStateDuring .transportError) c.task = true

  i.e. whenever no effort is in flight, an accidental loss starts one.  `_handle_reconnect` clears
  `_reconnect_task` on its success exit only, so after an effort that ended by give-up or abort the
  guard `not self._reconnect_task` stays false for the rest of the client's life
  (KNOWN_FINDINGS `stale-reconnect-task`; `stale_task_witness` below is the machine-checked
  counter-example).  The `_partial` theorem excludes exactly that region by the decidable
  hypothesis `cleanHistory` (every effort of the history ended connected).
-/

theorem step_task_partial {P : Type} (c : Cli P) (i : Input P) (c' : Cli P) (evs : List (Ev P))
    (htask : c.task = false) (hclean : effortFailed c i = false) (h : step c i = some (c', evs)) :
    c'.task = false ∧ c'.cfg = c.cfg := by
  refine ⟨?_, step_cfg c c' i evs h⟩
  cases i with
  | lose cause sc =>
    obtain ⟨s, _, hc, hs, _, ⟨hstart, _, _, ht, _⟩ | ⟨_, _, ht, _⟩⟩ := step_lose h
    · -- an effort ran, and it did not fail: it ended connected
      simp only [effortFailed, hc, hs, hstart, Bool.true_and] at hclean
      exact ht.trans hclean
    · exact ht.trans htask
  | _ =>
    simp only [step] at h
    split at h <;> cases h
    exact htask

/-- What `connect()` stored is written by the application's `connect()` calls only: the server
    ending one namespace (the client stays up on the others) and any loss leave it as it is. -/
theorem stored_kept {P : Type} (c c' : Cli P) (i : Input P) (evs : List (Ev P))
    (hi : (∀ s, i ≠ .connect s) ∧ (∀ s acc, i ≠ .connectNoWait s acc))
    (h : step c i = some (c', evs)) : c'.stored = c.stored := by
  cases i with
  | connect s => exact absurd rfl (hi.1 s)
  | connectNoWait s acc => exact absurd rfl (hi.2 s acc)
  | nsEnd n =>
    simp only [step] at h
    split at h <;> cases h
    rfl
  | lose cause sc =>
    obtain ⟨_, _, _, _, _, ⟨_, _, h, _⟩ | ⟨_, h, _⟩⟩ := step_lose h <;> exact h

/-- `same_parameters` over the life of a connection: whatever happened since `connect()` stored
    its parameters — namespaces refused at connect time, namespaces ended by the server — every
    `connect()` made by the effort a loss starts is called with exactly the stored parameters
    (url, headers, auth, transports, path: `conn`; and the full namespace list `nss`, including the
    namespaces that are not connected any more). -/
theorem lose_same_parameters {P : Type} (c c' : Cli P) (cause : Cause) (sc : Script)
    (evs : List (Ev P)) (p : Stored P) (h : step c (.lose cause sc) = some (c', evs))
    (hp : Ev.attempt p ∈ evs) : c.stored = some p := by
  obtain ⟨s, hs, _, hst, hh, ⟨_, _, _, _, he⟩ | ⟨_, _, _, he⟩⟩ := step_lose h <;>
    simp only [he, List.mem_append, List.mem_singleton, reduceCtorEq, or_false, hh p, false_or] at hp
  -- neither the handler events `hs` nor the notification is an attempt: without an effort `hp` has
  -- become `False` (that case is closed), with one the attempt is among the effort's events
  rw [hst, same_parameters (h := hp) ..]

/-- Outside the region of the known finding: after a history in which every effort ended
    connected, no effort is recorded as in flight … -/
theorem history_task_partial {P : Type} (is : List (Input P)) : ∀ (c0 c : Cli P) (evs : List (Ev P)),
    c0.task = false → cleanHistory c0 is = true → run c0 is = some (c, evs) →
    c.task = false ∧ c.cfg = c0.cfg := by
  induction is with
  | nil => intro c0 c evs h0 _ hrun; cases hrun; exact ⟨h0, rfl⟩
  | cons i is ih =>
    intro c0 c evs h0 hclean hrun
    obtain ⟨c1, e1, e2, hst, hr, _⟩ := run_cons hrun
    simp only [cleanHistory, hst, Bool.and_eq_true, Bool.not_eq_true'] at hclean
    have ⟨ht, hcfg⟩ := step_task_partial c0 i c1 e1 h0 hclean.1 hst
    have := ih c1 c e2 ht hclean.2 hr
    exact ⟨this.1, this.2.trans hcfg⟩

/-- … hence the next accidental loss starts a new effort (the property's "retries the connection"),
    for a client with reconnection enabled. -/
theorem next_loss_starts_effort_partial {P : Type} (c0 c : Cli P) (is : List (Input P))
    (evs : List (Ev P)) (h0 : c0.task = false) (hclean : cleanHistory c0 is = true)
    (hrun : run c0 is = some (c, evs)) (hr : c0.cfg.reconnection = true) :
    startsEffort c.cfg (eioStateDuring .transportError) c.task = true := by
  have ⟨ht, hcfg⟩ := history_task_partial is c0 c evs h0 hclean hrun
  rw [ht, hcfg]
  exact accidental_starts c0.cfg hr

def scFail : Script := ⟨fun _ => .transport, fun _ => 1/2, none, 10⟩
def scSecond : Script := ⟨fun k => if k = 1 then .served [] else .transport, fun _ => 1/2, none, 10⟩
def stored0 : Stored Nat := ⟨7, ["/".toList]⟩
def cfgOne : Cfg := ⟨true, 1, 1, 5, 0⟩
def cfgThree : Cfg := ⟨true, 3, 1, 5, 0⟩

def storedAB : Stored Nat := ⟨7, ["/a".toList, "/b".toList]⟩

-- non-vacuity: two namespaces, the server ends "/b", the transport is lost: the effort's attempt
-- carries both namespaces, and afterwards both are connected again
example :
    (match run (Cli.init cfgThree : Cli Nat)
        [.connect storedAB, .nsEnd "/b".toList, .lose .transportError scSecond] with
     | some (c, evs) => (c.live, c.stored.map (·.nss), countAttempts evs,
                          evs.any (fun e => match e with | .attempt p => p.nss != storedAB.nss | _ => false))
     | none => ([], none, 0, true)) =
    (["/a".toList, "/b".toList], some ["/a".toList, "/b".toList], 3, false) := by decide


-- non-vacuity of `next_loss_starts_effort_partial`: an effort that reconnects at its second
-- attempt, then another accidental loss: the history is clean and a second effort runs (2 + 2
-- attempts besides the initial connect)
example :
    cleanHistory (Cli.init cfgThree : Cli Nat)
      [.connect stored0, .lose .transportError scSecond, .lose .transportError scSecond] = true ∧
    (match run (Cli.init cfgThree : Cli Nat)
        [.connect stored0, .lose .transportError scSecond, .lose .transportError scSecond] with
     | some (c, evs) => (c.task, c.connected, countAttempts evs)
     | none => (true, false, 0)) = (false, true, 5) := by decide

/-- NEGATION WITNESS of the full-strength statement (known finding `stale-reconnect-task`):
    limit 1; connect; accidental loss; the single attempt fails, the effort gives up; the
    application connects again; accidental loss — reconnection is enabled, no effort is running,
    and yet none is started (and, `will_reconnect` being true, `__disconnect_final` is not invoked
    either: the only events are the `disconnect` handler and the notification). -/
theorem stale_task_witness :
    (match run (Cli.init cfgOne : Cli Nat)
        [.connect stored0, .lose .transportError scFail, .connect stored0] with
     | some (c, _) =>
        (c.cfg.reconnection, c.connected, startsEffort c.cfg (eioStateDuring .transportError) c.task)
     | none => (false, false, true)) = (true, true, false) ∧
    (match run (Cli.init cfgOne : Cli Nat)
        [.connect stored0, .lose .transportError scFail, .connect stored0,
         .lose .transportError scFail] with
     | some (_, evs) => countAttempts evs
     | none => 0) = 3 := by decide

/-! ### nothing is carried from one effort to the next -/

/-- **Every effort starts from `reconnection_delay`.**  Whatever happened before (any history of
    connects, losses, efforts that succeeded, gave up or were aborted), the (k+1)-th wait of the
    effort a later loss starts is given by the closed form with `k` counted from the start of THAT
    effort and the configuration the client was created with: nothing is carried from one effort
    to the next. -/
theorem every_effort_from_initial_delay {P : Type} (c0 c : Cli P) (is : List (Input P))
    (evs : List (Ev P)) (hrun : run c0 is = some (c, evs)) (s : Stored P) (sc : Script)
    (k : Nat) (w : Q)
    (h : (effort c.cfg s sc.outs sc.rands sc.abortAt sc.fuel).1.waits[k]? = some w) :
    w = min (c0.cfg.delay * 2 ^ k) c0.cfg.delayMax + c0.cfg.rf * (2 * sc.rands k - 1) := by
  rw [run_cfg is c0 c evs hrun] at h
  exact delay (h := h) ..

-- non-vacuity: a history whose first effort fails twice and then reconnects, followed by a second
-- effort on the same client: the waits of the second effort are 1, 2 again (not 4, 5)
example :
    (match run (Cli.init cfgThree : Cli Nat) [.connect stored0, .lose .transportError scSecond] with
     | some (c, _) => (effort c.cfg stored0 scSecond.outs scSecond.rands scSecond.abortAt scSecond.fuel
                        : Res × List (Ev Nat)).1.waits
     | none => []) = [1, 2] := by decide +kernel

end Sio.C10
