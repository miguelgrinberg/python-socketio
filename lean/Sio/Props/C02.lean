/-
  C02 — End-to-end payload transparency between client and server handlers.

  Property theorems only.  Model: Sio/Model/Args.lean (argument packing, multi-frame send,
  receiver reassembly, dispatch; default and msgpack packet classes) on top of the packet codec
  Sio/Model/Codec.lean.  Statement-level notions (`Msg`, `Msg.packet`, `Msg.InDomain`,
  `Msg.wireJson`, `Msg.expected`, `Sendable`) are in Sio/Lemmas/ArgsDefs.lean, proofs in
  Sio/Lemmas/Args.lean; everything rests on the C01 round-trip lemmas (`decode_encode`,
  `feed_encode` = `C01.roundtrip`, `wf_of_mkPacket` = `C01.mk_wellformed`).

  The four pairings (Client→Server, Server→Client, threaded and asyncio) run the *same* functions
  of (event, data, namespace, id): `mkEvent`/`mkAck` + `send` on the emitting side, `receive` +
  `dispatch` on the other; the theorems are therefore proved once.  That the four really are
  these functions is what the correspondence harness checks on every run.

  Domain (`Msg.InDomain`): namespace a path without `,` and `?`; id `< 10^100`; no dictionary of
  the payload uses the key `"_placeholder"`; fewer than `10^10` byte strings.  Any event name,
  any nesting depth, byte strings anywhere.  By construction of the value type: string keys, no
  lone surrogates, floats as finite literals, tuples only at top level (`Data`).

  Parameters (exercised by the harness, not verified here):
  * `cls`    Python's `str.isdigit()` table — only its ASCII part is assumed (`AsciiCls`);
  * `loads`  `json.loads` — assumed only at the one text printed for the message (`hrt`); the
             printer is the concrete `J.dumps`.  Section 6 discharges `hrt` for the concrete
             reader `J.loads` (C01 phase 2, `Sio.loads_dumps_lem`): there no JSON hypothesis is
             left, only that float leaves carry well-formed literals (`FltLits`);
  * `ser`/`deser`  `msgpack.dumps`/`msgpack.loads` (a C extension) — assumed only at the one
             dictionary sent (`hser`).
-/
import Sio.Lemmas.Args
import Sio.Lemmas.CodecDigits
import Sio.Lemmas.JsonRoundtrip
namespace Sio.C02
open Sio Sio.Args

variable {cls : Char → DC} {loads : Str → Except Err J}

/-! ## a concrete non-trivial message for the non-vacuity examples

`emit("my-ev", ({"k": [b"\x01\x02", {"z": b""}]}, [], "7-x"), namespace="/chat", callback=…)` with
acknowledgement id 12: a tuple of three, byte strings under a dict under a list, an empty list
(ONE argument), a string that looks like a header field. -/

def exD : Data :=
  .tuple [.obj [("k".toList, .arr [.bin [1, 2], .obj [("z".toList, .bin [])]])], .arr [], .str "7-x".toList]

def exM : Msg := .event "my-ev".toList exD "/chat".toList (some 12)

/-- a `loads` that inverts `J.dumps` at the one value printed for `exM` -/
def exLoads (s : Str) : Except Err J :=
  if s = J.dumps exM.wireJson then .ok exM.wireJson else .error .jsonError

theorem exM_dom : exM.InDomain = true := by decide +kernel
theorem exM_rt : exLoads (J.dumps exM.wireJson) = .ok exM.wireJson := if_pos rfl

/-! ## 1. events -/

/-- **Event transparency.**  For every event name, every `Data` (tuple / `None` / one value, byte
    strings at any depth), every namespace of the domain and every optional id: the constructor
    accepts the message; its frame group, received in order, completes exactly one packet `q` and
    leaves nothing parked; and dispatch invokes the handler of event `ev` on namespace `ns` with
    exactly the arguments `pack d` — a tuple's elements, nothing for `None`, the value itself
    otherwise — carrying the id.  Client→server and server→client alike. -/
theorem event_e2e (hcls : AsciiCls cls) (ev : Str) (d : Data) (ns : Str) (id : Option Nat)
    (hdom : (Msg.event ev d ns id).InDomain = true)
    (hrt : loads (J.dumps (Msg.event ev d ns id).wireJson) = .ok (Msg.event ev d ns id).wireJson) :
    ∃ p q, mkEvent true ev d ns id = .ok p ∧
      receive cls loads (send J.dumps p) = .ok ([q], none) ∧
      handlerArgs q = .ok (ns, id, .str ev, d.pack) ∧
      deliver cls loads (send J.dumps p) = .ok ([.event ns id (.str ev) d.pack], none) :=
  -- the handler's arguments are read off the packet; only the namespace needs `msg_norm_ns`
  ⟨_, _, mkEvent_eq true ev d ns id, receive_msg hcls _ hdom hrt,
    congrArg (fun x => Except.ok (x, id, J.str ev, d.pack)) (msg_norm_ns _ hdom),
    deliver_msg hcls _ hdom hrt⟩

/-- non-vacuity and the concrete frames: text frame first (placeholders numbered depth-first),
    then the two byte strings in that order -/
example : send J.dumps (exM.packet true) =
    [.text ("52-/chat,12[\"my-ev\",{\"k\":[{\"_placeholder\":true,\"num\":0}," ++
            "{\"z\":{\"_placeholder\":true,\"num\":1}}]},[],\"7-x\"]").toList,
     .bin [1, 2], .bin []] := by
  rw [String.toList_append, String.toList_ofList, String.toList_ofList]
  exact send_of_encode (atts := [[1, 2], []]) (by decide +kernel)

example : ∃ p q, mkEvent true "my-ev".toList exD "/chat".toList (some 12) = .ok p ∧
    receive asciiCls exLoads (send J.dumps p) = .ok ([q], none) ∧
    handlerArgs q = .ok ("/chat".toList, some 12, .str "my-ev".toList, exD.pack) ∧
    deliver asciiCls exLoads (send J.dumps p)
      = .ok ([.event "/chat".toList (some 12) (.str "my-ev".toList) exD.pack], none) :=
  event_e2e asciiCls_ascii _ _ _ _ exM_dom exM_rt

/-- the frame group of a message: one text frame, then its byte strings in depth-first order -/
theorem frames (m : Msg) :
    send J.dumps (m.packet true) =
      .text (encode J.dumps (m.packet true)).1 :: (binLeaves m.payload).map Frame.bin := by
  rw [← msg_atts, ← encode_atts J.dumps]; rfl

/-! ## 2. acknowledgements and `call()` -/

/-- `call()` returns `normalise` of what the peer's handler returned — whatever the transport -/
theorem call_result (ret : Data) : callResult ret.pack = normalise ret := by
  cases ret with
  | tuple xs =>
    match xs with
    | [] | [_] | _ :: _ :: _ => rfl
  | _ => rfl

/-- **Acknowledgement transparency.**  What a handler returns (`ret`) reaches the callback stored
    under (`ns`, `id`) as the arguments `pack ret`, and `call()` turns those arguments into
    `normalise ret`. -/
theorem ack_e2e (hcls : AsciiCls cls) (ret : Data) (ns : Str) (id : Nat)
    (hdom : (Msg.ack ret ns id).InDomain = true)
    (hrt : loads (J.dumps (Msg.ack ret ns id).wireJson) = .ok (Msg.ack ret ns id).wireJson) :
    ∃ p q, mkAck true ret ns id = .ok p ∧
      receive cls loads (send J.dumps p) = .ok ([q], none) ∧
      callbackArgs q = .ok (ns, some id, ret.pack) ∧
      deliver cls loads (send J.dumps p) = .ok ([.ack ns (some id) ret.pack], none) ∧
      callResult ret.pack = normalise ret :=
  ⟨_, _, mkAck_eq true ret ns id, receive_msg hcls _ hdom hrt,
    congrArg (fun x => Except.ok (x, some id, ret.pack)) (msg_norm_ns _ hdom),
    deliver_msg hcls _ hdom hrt, call_result ret⟩

/-- the rules, spelled out: `None` and `()` give `None`; `(x,)` gives `x`; a tuple of two or more
    comes back as that tuple; anything else — a list of any length included — comes back as
    itself (ONE value) -/
theorem normalise_rules :
    normalise .none = .none ∧ normalise (.tuple []) = .none ∧
    (∀ x, normalise (.tuple [x]) = .one x) ∧
    (∀ x y r, normalise (.tuple (x :: y :: r)) = .tuple (x :: y :: r)) ∧
    (∀ j, normalise (.one j) = .one j) ∧
    (∀ xs, normalise (.one (.arr xs)) = .one (.arr xs)) :=
  ⟨rfl, rfl, fun _ => rfl, fun _ _ _ => rfl, fun _ => rfl, fun _ => rfl⟩

/-- the same rules on the way in: how many arguments the handler gets -/
theorem pack_rules :
    Data.pack .none = [] ∧ Data.pack (.tuple []) = [] ∧
    (∀ xs, Data.pack (.tuple xs) = xs) ∧ (∀ j, Data.pack (.one j) = [j]) ∧
    (∀ xs, Data.pack (.one (.arr xs)) = [.arr xs]) :=
  ⟨rfl, rfl, fun _ => rfl, fun _ => rfl, fun _ => rfl⟩

def exAck : Msg := .ack (.tuple [.bin [255], .obj [("a".toList, .arr [.arr []])]]) "/".toList 3

def exAckLoads (s : Str) : Except Err J :=
  if s = J.dumps exAck.wireJson then .ok exAck.wireJson else .error .jsonError

example : exAck.InDomain = true ∧ exAckLoads (J.dumps exAck.wireJson) = .ok exAck.wireJson ∧
    send J.dumps (exAck.packet true)
      = [.text "61-3[{\"_placeholder\":true,\"num\":0},{\"a\":[[]]}]".toList, .bin [255]] := by
  rw [String.toList_ofList]
  exact ⟨by decide +kernel, if_pos rfl, send_of_encode (atts := [[255]]) (by decide +kernel)⟩

/-! ## 3. order -/

/-- **Order, packets.**  A sequence of packets sent one after the other by one sender is the
    concatenation of their frame groups; over a FIFO transport the receiver's reassembly
    completes exactly those packets, in that order, and ends with nothing parked.  Unbounded:
    induction over the list. -/
theorem order_packets (hcls : AsciiCls cls) {dumps : J → Str} (ps : List Packet)
    (hs : ∀ p ∈ ps, Sendable cls loads dumps p) :
    receive cls loads (sendAll dumps ps) = .ok (ps.map Packet.norm, none) :=
  receive_sendAll hcls ps hs

/-- … and the continuation form: a frame group followed by *anything* delivers its packet first
    and goes on from the idle state -/
theorem order_step (hcls : AsciiCls cls) {dumps : J → Str} (p : Packet)
    (hs : Sendable cls loads dumps p) (rest : List Frame) :
    receiveFrom cls loads none (send dumps p ++ rest)
      = (receiveFrom cls loads none rest).map (fun r => (p.norm :: r.1, r.2)) :=
  receive_send hcls hs rest

/-- **Order, application level.**  Any sequence of events and acknowledgements of the domain,
    sent one after the other, is handled — handler and callback invocations with their
    arguments — in the order sent. -/
theorem order (hcls : AsciiCls cls) (ms : List Msg)
    (hdom : ∀ m ∈ ms, m.InDomain = true)
    (hrt : ∀ m ∈ ms, loads (J.dumps m.wireJson) = .ok m.wireJson) :
    deliver cls loads (sendAll J.dumps (ms.map (Msg.packet true)))
      = .ok (ms.map Msg.expected, none) :=
  deliver_msgs hcls ms hdom hrt

/-- the packets of `order` are the ones the constructor makes -/
theorem packet_is_constructed (m : Msg) :
    mkPacket true m.baseType (some m.payload) (some m.ns) m.id none = .ok (m.packet true) :=
  mkPacket_msg m

def exLoads2 (s : Str) : Except Err J :=
  if s = J.dumps exM.wireJson then .ok exM.wireJson
  else if s = J.dumps exAck.wireJson then .ok exAck.wireJson else .error .jsonError

/-- non-vacuity: a binary event, a binary ack and the event again — seven frames, three
    invocations in order -/
example : deliver asciiCls exLoads2 (sendAll J.dumps ([exM, exAck, exM].map (Msg.packet true)))
    = .ok ([exM.expected, exAck.expected, exM.expected], none) ∧
    (sendAll J.dumps ([exM, exAck, exM].map (Msg.packet true))).length = 8 := by
  refine ⟨order asciiCls_ascii [exM, exAck, exM] (by decide +kernel) ?_, by decide +kernel⟩
  intro m hm
  have : J.dumps exAck.wireJson ≠ J.dumps exM.wireJson := by decide +kernel
  simp only [List.mem_cons, List.not_mem_nil, or_false] at hm
  rcases hm with rfl | rfl | rfl <;> simp [exLoads2, this]

/-- why "one sender": if the attachment of one message is overtaken by the text frame of the
    next, the text frame is swallowed as the attachment — the first handler gets a *string* where
    the byte string was, the second message is lost, and its attachment is refused -/
example :
    let m1 := Msg.event "a".toList (.one (.bin [1])) "/".toList none
    let m2 := Msg.event "b".toList (.one (.bin [2])) "/".toList none
    let ld : Str → Except Err J := fun s =>
      if s = J.dumps m1.wireJson then .ok m1.wireJson else .error .jsonError
    let t1 := Frame.text "51-[\"a\",{\"_placeholder\":true,\"num\":0}]".toList
    let t2 := Frame.text "51-[\"b\",{\"_placeholder\":true,\"num\":0}]".toList
    send J.dumps (m1.packet true) = [t1, .bin [1]] ∧ send J.dumps (m2.packet true) = [t2, .bin [2]] ∧
      deliver asciiCls ld [t1, t2]
        = .ok ([.event "/".toList none (.str "a".toList)
                  [.str "51-[\"b\",{\"_placeholder\":true,\"num\":0}]".toList]], none) ∧
      deliver asciiCls ld [t1, t2, .bin [1]] = .error .typeError := by
  repeat rw [String.toList_ofList]
  exact ⟨rfl, rfl, rfl, rfl⟩

/-! ## 4. msgpack -/

variable {ser : J → Bytes} {deser : Bytes → Except Err J}

/-- **msgpack, events.**  With the msgpack packet class a message is one frame,
    `ser (_to_dict())`; under the hypothesis that `deser` inverts `ser` on that one dictionary
    the handler is invoked with exactly `pack d`.  No restriction on the namespace or on
    dictionary keys: nothing is parsed or substituted. -/
theorem msgpack_event_e2e (ev : Str) (d : Data) (ns : Str) (id : Option Nat) :
    ∃ p, mkEvent false ev d ns id = .ok p ∧
      (deser (ser (toDict p)) = .ok (toDict p) →
        deliverMP deser (sendMP ser p) = .ok [.event ns id (.str ev) d.pack]) :=
  ⟨_, mkEvent_eq false ev d ns id, deliverMP_msg (.event ev d ns id)⟩

/-- **msgpack, acknowledgements.** -/
theorem msgpack_ack_e2e (ret : Data) (ns : Str) (id : Nat) :
    ∃ p, mkAck false ret ns id = .ok p ∧
      (deser (ser (toDict p)) = .ok (toDict p) →
        deliverMP deser (sendMP ser p) = .ok [.ack ns (some id) ret.pack]) ∧
      callResult ret.pack = normalise ret :=
  ⟨_, mkAck_eq false ret ns id, deliverMP_msg (.ack ret ns id), call_result ret⟩

/-- **msgpack, order.**  Nothing is ever parked with this class, so a run is one packet per frame. -/
theorem msgpack_order (ms : List Msg)
    (hser : ∀ m ∈ ms, deser (ser (toDict (m.packet false))) = .ok (toDict (m.packet false))) :
    deliverMP deser (sendAllMP ser (ms.map (Msg.packet false))) = .ok (ms.map Msg.expected) :=
  deliverMP_msgs ms hser

/-- the dictionary that is serialised: `id` present exactly when the message carries one -/
theorem msgpack_dict (m : Msg) :
    toDict (m.packet false) =
      .obj ([(kType, .int m.baseType), (kData, m.payload), (kNsp, .str m.ns)]
            ++ (match m.id with | some i => [(kId, .int i)] | none => [])) := by
  cases h : m.id <;> simp [Msg.packet, toDict, h]

/-- `_to_dict` is read back exactly (`MsgPackPacket.decode`) -/
theorem msgpack_dict_roundtrip (m : Msg) : ofDict (toDict (m.packet false)) = .ok (m.packet false) :=
  ofDict_toDict_msg m

/-- non-vacuity: a serialiser pair that is faithful on the one dictionary (here: a one-entry
    table), the example message with its id -/
example :
    let p := exM.packet false
    let ser : J → Bytes := fun _ => [0xC1]
    let deser : Bytes → Except Err J := fun b => if b = [0xC1] then .ok (toDict p) else .error .other
    deser (ser (toDict p)) = .ok (toDict p) ∧
    deliverMP deser (sendMP ser p) = .ok [exM.expected] ∧ p.type = EVENT ∧
    lookup kId (match toDict p with | .obj kvs => kvs | _ => []) = some (.int 12) := by
  exact ⟨by simp, deliverMP_msg exM (by simp), rfl, rfl⟩

/-! ## 5. the domain boundary (informational)

The reserved key is a real boundary of the *default* serializer: a dictionary
`{"_placeholder": true, "num": 0}` sent next to a byte string comes back as that byte string.
Reproduced on the real code by the harness on every run (as a note, not as a finding: the key is
reserved by the Socket.IO protocol). -/

def exReserved : Msg :=
  .event "e".toList (.tuple [.obj [("_placeholder".toList, .bool true), ("num".toList, .int 0)], .bin [9]])
    "/".toList none

theorem reserved_key_not_transparent :
    exReserved.InDomain = false ∧
    deliver asciiCls (fun s => if s = J.dumps exReserved.wireJson then .ok exReserved.wireJson
        else .error .jsonError) (send J.dumps (exReserved.packet true))
      = .ok ([.event "/".toList none (.str "e".toList) [.bin [9], .bin [9]]], none) := by
  exact ⟨by decide +kernel, rfl⟩

/-! ## 6. closed form: the concrete JSON reader

With `loads := J.loads` (Sio/Model/JsonParse.lean) the hypothesis `hrt` is a theorem
(`Sio.loads_dumps_lem`, C01 phase 2): the only thing left to assume about a payload is that its
float leaves carry well-formed float literals (every `repr` of a finite Python float is one). -/

/-- `hrt` holds for the concrete reader -/
theorem hrt_concrete (m : Msg) (hf : FltLits m.payload = true) :
    J.loads (J.dumps m.wireJson) = .ok m.wireJson :=
  loads_dumps_lem _ (noBin_decon m.payload []) (fltLits_decon m.payload [] hf)

theorem event_e2e_json (hcls : AsciiCls cls) (ev : Str) (d : Data) (ns : Str) (id : Option Nat)
    (hdom : (Msg.event ev d ns id).InDomain = true)
    (hf : FltLits (eventPayload ev d) = true) :
    ∃ p, mkEvent true ev d ns id = .ok p ∧
      deliver cls J.loads (send J.dumps p) = .ok ([.event ns id (.str ev) d.pack], none) := by
  obtain ⟨p, _, h1, _, _, h4⟩ :=
    event_e2e (loads := J.loads) hcls ev d ns id hdom (hrt_concrete (.event ev d ns id) hf)
  exact ⟨p, h1, h4⟩

theorem ack_e2e_json (hcls : AsciiCls cls) (ret : Data) (ns : Str) (id : Nat)
    (hdom : (Msg.ack ret ns id).InDomain = true)
    (hf : FltLits (ackPayload ret) = true) :
    ∃ p, mkAck true ret ns id = .ok p ∧
      deliver cls J.loads (send J.dumps p) = .ok ([.ack ns (some id) ret.pack], none) ∧
      callResult ret.pack = normalise ret := by
  obtain ⟨p, _, h1, _, _, h4, h5⟩ :=
    ack_e2e (loads := J.loads) hcls ret ns id hdom (hrt_concrete (.ack ret ns id) hf)
  exact ⟨p, h1, h4, h5⟩

theorem order_json (hcls : AsciiCls cls) (ms : List Msg)
    (hdom : ∀ m ∈ ms, m.InDomain = true)
    (hf : ∀ m ∈ ms, FltLits m.payload = true) :
    deliver cls J.loads (sendAll J.dumps (ms.map (Msg.packet true)))
      = .ok (ms.map Msg.expected, none) :=
  order hcls ms hdom (fun m hm => hrt_concrete m (hf m hm))

/-- non-vacuity, with a float -/
example : (Msg.event "e".toList (.one (.arr [.flt "1.5e+16".toList, .bin [7]])) "/n".toList none).InDomain = true ∧
    FltLits (eventPayload "e".toList (.one (.arr [.flt "1.5e+16".toList, .bin [7]]))) = true := by
  decide +kernel

end Sio.C02
