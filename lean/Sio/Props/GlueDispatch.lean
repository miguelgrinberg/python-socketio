/-
  Glue (dispatch) — the separately built models agree with each other on handler resolution.

  K4 ↔ K8: `Sio.Server.resolve` (the handler resolution inside the server-core model) selects, for
  every registry, namespace (a namespace literally named `"*"` included) and STRING event name
  (ordinary, reserved, `"*"`, empty), exactly what `Sio.Dispatch.resolve .server` selects, with the
  documented argument prefix; hence the C13 precedence table holds for the handler `Sio.Server.step`
  invokes for an incoming EVENT.  K7 ↔ K8: the same for the client model's registry
  `Sio.Client.Reg.resolve` and `Sio.Dispatch.resolve .client`.
  (The only glue module that depends on `Sio.Props.C13`; the constants are in GlueCodec / GlueServer /
  GlueReconnect.)
-/
import Sio.Model.Dispatch
import Sio.Model.Server
import Sio.Model.Client
import Sio.Props.C13
import Sio.Props.C05
import Sio.Props.C09
namespace Sio.GlueDispatch
open Sio

/-! ## K4 ↔ K8: the server core's own `resolve` is `Dispatch.resolve .server` -/

/-- A `Server.Registry` as a `Dispatch.Reg`: `handlers[n][e]` exists iff the namespace key exists
    (`fnNs n`) and the event key exists in it. -/
def serverReg (reg : Server.Registry) : Dispatch.Reg where
  fn n e := reg.fnNs n && reg.fn n e
  cls := reg.cls
  attr := reg.clsMethod

/-- the registered object a `Dispatch.Slot` stands for, for concrete names -/
def serverSlot (ns : Str) (ev : Str) : Dispatch.Slot → Server.Slot
  | .fnNsEv => .fn ns ev
  | .fnNsStar => .fn ns Dispatch.star
  | .fnStarEv => .fn Dispatch.star ev
  | .fnStarStar => .fn Dispatch.star Dispatch.star
  | .clsNs => .cls ns (Dispatch.methodName ev)
  | .clsStar => .cls Dispatch.star (Dispatch.methodName ev)

/-- the documented argument prefix (`[]`, `[ev]`, `[ns]`, `[ev, ns]`) as handler arguments -/
def prefixJ (ns ev : Str) (pre : List Dispatch.PArg) : List J :=
  pre.map (fun p => J.str (p.render ns ev))

/-- `Dispatch.Res` as a `Server.Resolved`: the slot, and `prefix ++ args`; `dropped` is
    `clsNoMethod`, `notHandled` is `notHandled` -/
def serverRes (ns ev : Str) (args : List J) : Dispatch.Res → Server.Resolved
  | .invoke slot pre =>
    if slot.isFn then .fn (serverSlot ns ev slot) (prefixJ ns ev pre ++ args)
    else .clsCall (serverSlot ns ev slot) (prefixJ ns ev pre ++ args)
  | .dropped _ => .clsNoMethod
  | .notHandled => .notHandled

/-- the server model's own reserved list is the one the source has now -/
theorem server_reserved_eq : Server.reserved = Generated.serverReserved := by decide

/-- One `if n in self.handlers:` block of `Server.resolve` (guard `g`, exact handler `a`, catch-all
    handler `b`) followed by the rest `k` is two rows of a first-match chain. -/
theorem block_chain (g a b : Bool) (x y : Server.Resolved) (k : Except Err Server.Resolved) :
    (match (if g then (if a then .ok (some x) else if b then .ok (some y) else .ok none)
            else .ok none : Except Err (Option Server.Resolved)) with
      | .error e => .error e
      | .ok (some r) => .ok r
      | .ok none => k) = if g && a then .ok x else if g && b then .ok y else k := by
  cases g <;> cases a <;> cases b <;> rfl

/-- `handler_name = 'on_' + (event or '')`: for a string the `or ''` changes nothing. -/
theorem method_or_empty (reg : Server.Registry) (cns ev : Str) (cargs : List J) :
    (if (J.str ev).truthy then
        (if reg.clsMethod cns (['o', 'n', '_'] ++ ev) then
          Except.ok (Server.Resolved.clsCall (.cls cns (['o', 'n', '_'] ++ ev)) cargs)
         else .ok .clsNoMethod)
      else if reg.clsMethod cns ['o', 'n', '_'] then .ok (.clsCall (.cls cns ['o', 'n', '_']) cargs)
        else .ok .clsNoMethod : Except Err Server.Resolved) =
      .ok (bif reg.clsMethod cns (['o', 'n', '_'] ++ ev) then .clsCall (.cls cns (['o', 'n', '_'] ++ ev)) cargs
           else .clsNoMethod) := by
  cases ev with
  | nil => cases h : reg.clsMethod cns ['o', 'n', '_'] <;> simp [J.truthy, h]
  | cons c cs => cases reg.clsMethod cns (['o', 'n', '_'] ++ c :: cs) <;> simp [J.truthy]

/-- **K4 ↔ K8.**  For every registry, namespace, string event name and argument list, the server
    core's `resolve` succeeds with exactly the handler `Dispatch.resolve .server` selects (on the
    translated registry), called with the documented prefix prepended to `args`. -/
theorem server_resolve_eq (reg : Server.Registry) (ns ev : Str) (args : List J) :
    Server.resolve reg ns (.str ev) args =
      .ok (serverRes ns ev args (Dispatch.resolve .server (serverReg reg) ns ev)) := by
  have hon : "on_".toList = ['o', 'n', '_'] := by decide
  -- the table's four function bits, re-associated into the conjunctions `Server.resolve` tests, so
  -- that one `cases` per row hits both sides
  have h1 : (serverReg reg).nsExact ns ev =
      (ns != Dispatch.star && reg.fnNs ns && (!ev == Dispatch.star && reg.fn ns ev)) := by
    show (ns != Dispatch.star && (!(ev == Dispatch.star) && (reg.fnNs ns && reg.fn ns ev))) = _
    cases ns != Dispatch.star <;> cases reg.fnNs ns <;> cases ev == Dispatch.star <;> rfl
  have h2 : ((serverReg reg).nsCatch ns && !Server.reserved.contains ev) =
      (ns != Dispatch.star && reg.fnNs ns && (!Server.reserved.contains ev && reg.fn ns Dispatch.star)) := by
    show (ns != Dispatch.star && (reg.fnNs ns && reg.fn ns Dispatch.star) && _) = _
    cases ns != Dispatch.star <;> cases reg.fnNs ns <;> cases reg.fn ns Dispatch.star <;>
      cases Server.reserved.contains ev <;> rfl
  have h3 : (serverReg reg).exact Dispatch.star ev =
      (reg.fnNs Dispatch.star && (!ev == Dispatch.star && reg.fn Dispatch.star ev)) :=
    Bool.and_left_comm ..
  have h4 : ((serverReg reg).fn Dispatch.star Dispatch.star && !Server.reserved.contains ev) =
      (reg.fnNs Dispatch.star && (!Server.reserved.contains ev && reg.fn Dispatch.star Dispatch.star)) := by
    show (reg.fnNs Dispatch.star && reg.fn Dispatch.star Dispatch.star && _) = _
    cases reg.fnNs Dispatch.star <;> cases reg.fn Dispatch.star Dispatch.star <;>
      cases Server.reserved.contains ev <;> rfl
  rw [C13.precedence_table, show Dispatch.reservedOf .server = Server.reserved from server_reserved_eq.symm]
  simp only [Dispatch.table, h1, h2, h3, h4, Dispatch.Reg.nsCls, show (serverReg reg).cls = reg.cls from rfl,
    show ∀ n, (serverReg reg).hasMethod n ev = reg.clsMethod n (['o', 'n', '_'] ++ ev) from fun _ => rfl]
  simp only [Server.resolve, Server.evStr, Server.inDict, Server.hashable, Bool.not_true,
    Bool.false_eq_true, if_false, Option.getD_some, hon, show Server.star = Dispatch.star from rfl]
  refine (block_chain ..).trans ?_
  cases ns != Dispatch.star && reg.fnNs ns && (!ev == Dispatch.star && reg.fn ns ev)
  case true => rfl
  cases ns != Dispatch.star && reg.fnNs ns && (!Server.reserved.contains ev && reg.fn ns Dispatch.star)
  case true => rfl
  refine (block_chain ..).trans ?_
  cases reg.fnNs Dispatch.star && (!ev == Dispatch.star && reg.fn Dispatch.star ev)
  case true => rfl
  cases reg.fnNs Dispatch.star && (!Server.reserved.contains ev && reg.fn Dispatch.star Dispatch.star)
  case true => rfl
  cases ns != Dispatch.star && reg.cls ns
  case true =>
    simp only [↓reduceIte, method_or_empty]
    cases reg.clsMethod ns (['o', 'n', '_'] ++ ev) <;> rfl
  cases reg.cls Dispatch.star
  case false => rfl
  simp only [↓reduceIte, Bool.false_eq_true, method_or_empty]
  cases reg.clsMethod Dispatch.star (['o', 'n', '_'] ++ ev) <;> rfl

/-! ## K7 ↔ K8: the client model's registry is `Dispatch.resolve .client` -/

/-- A `Client.Reg` as a `Dispatch.Reg`: `hasattr(obj, a)` is `method n e` for `a = 'on_' + e`. -/
def clientReg (r : Client.Reg) : Dispatch.Reg where
  fn := r.fn
  cls := r.cls
  attr n a := match a with
    | 'o' :: 'n' :: '_' :: e => r.method n e
    | _ => false

def clientSlot (n ev : Str) : Dispatch.Slot → Client.Slot
  | .fnNsEv => ⟨false, n, ev⟩
  | .fnNsStar => ⟨false, n, Dispatch.star⟩
  | .fnStarEv => ⟨false, Dispatch.star, ev⟩
  | .fnStarStar => ⟨false, Dispatch.star, Dispatch.star⟩
  | .clsNs => ⟨true, n, ev⟩
  | .clsStar => ⟨true, Dispatch.star, ev⟩

/-- `Dispatch.Res` as the client model's answer: the slot and `prefix ++ args` (minus the `reason`
    for a legacy `disconnect` handler, `Reg.args`); `dropped` and `notHandled` are both "nothing
    runs" -/
def clientRes (r : Client.Reg) (n ev : Str) (args : List J) : Dispatch.Res → Option (Client.Slot × List J)
  | .invoke slot pre =>
    some (clientSlot n ev slot, r.args (clientSlot n ev slot) ev (prefixJ n ev pre ++ args))
  | _ => none

/-- the client model's own reserved list is the one the source has now -/
theorem client_reserved_eq : Client.reserved = Generated.clientReserved := by decide

/-- **K7 ↔ K8.**  For every registry, namespace, event name and argument list, the client model's
    registry selects exactly what `Dispatch.resolve .client` selects. -/
theorem client_resolve_eq (r : Client.Reg) (n ev : Str) (args : List J) :
    r.resolve n ev args = clientRes r n ev args (Dispatch.resolve .client (clientReg r) n ev) := by
  have hx : decide (ev ≠ Dispatch.star) = !(ev == Dispatch.star) := by
    by_cases h : ev = Dispatch.star <;> simp [h]
  have hm : ∀ k, (clientReg r).attr k (Dispatch.methodName ev) = r.method k ev := fun _ => rfl
  simp only [Client.Reg.resolve, Dispatch.resolve, Dispatch.resolveC, Dispatch.getEventHandler,
    Dispatch.eventHandlerNs, Dispatch.eventHandlerStar, Dispatch.getNamespaceHandlerC,
    Dispatch.triggerEvent, Dispatch.Reg.exact, hm, bne, ← client_reserved_eq,
    show (clientReg r).fn = r.fn from rfl, show (clientReg r).cls = r.cls from rfl,
    show Client.star = Dispatch.star from rfl, hx]
  -- both sides now test the same conditions in the same order: one split per condition, and the
  -- branch that decides a row evaluates on both sides
  cases n == Dispatch.star
  case true =>
    cases !(ev == Dispatch.star) && r.fn Dispatch.star ev
    case true => rfl
    cases !Client.reserved.contains ev && r.fn Dispatch.star Dispatch.star
    case true => rfl
    cases r.cls Dispatch.star
    case false => rfl
    show _ = clientRes r n ev args (bif r.method Dispatch.star ev then _ else _)
    cases r.method Dispatch.star ev <;> rfl
  cases !(ev == Dispatch.star) && r.fn n ev
  case true => rfl
  cases !Client.reserved.contains ev && r.fn n Dispatch.star
  case true => rfl
  cases !(ev == Dispatch.star) && r.fn Dispatch.star ev
  case true => rfl
  cases !Client.reserved.contains ev && r.fn Dispatch.star Dispatch.star
  case true => rfl
  cases r.cls n
  case true =>
    show _ = clientRes r n ev args (bif r.method n ev then _ else _)
    cases r.method n ev <;> rfl
  cases r.cls Dispatch.star
  case false => rfl
  show _ = clientRes r n ev args (bif r.method Dispatch.star ev then _ else _)
  cases r.method Dispatch.star ev <;> rfl

/-! ## corollaries: the C13 table for what the models invoke -/

/-- the `invoke` outputs a resolution result stands for -/
def invokesOf (ns ev : Str) (sidArgs : List J) : Dispatch.Res → List Server.Out
  | .invoke slot pre => [.invoke (serverSlot ns ev slot) (prefixJ ns ev pre ++ sidArgs)]
  | _ => []

/-- **C13 for `Server.step`.**  An EVENT `(nsp, id, ev :: args)` with a string name from a transport
    connected to the namespace with session `sid`, inline handlers: the handler invocations of the
    step are exactly the one `Dispatch.resolve .server` selects — that slot, with the documented
    prefix before `sid :: args` — and none when it selects nothing. -/
theorem step_invokes_dispatch {dec : Str → Except Err (Packet × Nat)} {cfg : Server.Cfg}
    {s s₀ : Server.Srv} (h : Server.WF s) {t : Rooms.Eio} {v : J} {nsp : Option Str}
    {id : Option Nat} {ev : Str} {args : List J} {sid : Rooms.Sid}
    (hc : Server.CompletesEvent dec s t v nsp id (some (.arr (.str ev :: args))) s₀)
    (hs : Rooms.sidOf s.rooms (nsp.getD ['/']) t = some sid) (hsync : cfg.asyncHandlers = false) :
    (Server.step dec cfg s (.frame t v)).2.filter Server.Out.isInvoke =
      invokesOf (nsp.getD ['/']) ev (.str sid :: args)
        (Dispatch.resolve .server (serverReg cfg.reg) (nsp.getD ['/']) ev) := by
  rw [(C05.invoke_once h hc hs hsync (server_resolve_eq ..)).1]
  cases Dispatch.resolve .server (serverReg cfg.reg) (nsp.getD ['/']) ev with
  | invoke slot pre => cases slot <;> rfl
  | dropped slot => rfl
  | notHandled => rfl

/-- … and therefore follows the documented precedence table, read off the server registry. -/
theorem step_invokes_table {dec : Str → Except Err (Packet × Nat)} {cfg : Server.Cfg}
    {s s₀ : Server.Srv} (h : Server.WF s) {t : Rooms.Eio} {v : J} {nsp : Option Str}
    {id : Option Nat} {ev : Str} {args : List J} {sid : Rooms.Sid}
    (hc : Server.CompletesEvent dec s t v nsp id (some (.arr (.str ev :: args))) s₀)
    (hs : Rooms.sidOf s.rooms (nsp.getD ['/']) t = some sid) (hsync : cfg.asyncHandlers = false) :
    (Server.step dec cfg s (.frame t v)).2.filter Server.Out.isInvoke =
      invokesOf (nsp.getD ['/']) ev (.str sid :: args)
        (Dispatch.table (Generated.serverReserved.contains ev)
          (nsp.getD ['/'] != Dispatch.star &&
            (ev != Dispatch.star && (cfg.reg.fnNs (nsp.getD ['/']) && cfg.reg.fn (nsp.getD ['/']) ev)))
          (nsp.getD ['/'] != Dispatch.star &&
            (cfg.reg.fnNs (nsp.getD ['/']) && cfg.reg.fn (nsp.getD ['/']) Dispatch.star))
          (ev != Dispatch.star && (cfg.reg.fnNs Dispatch.star && cfg.reg.fn Dispatch.star ev))
          (cfg.reg.fnNs Dispatch.star && cfg.reg.fn Dispatch.star Dispatch.star)
          (nsp.getD ['/'] != Dispatch.star && cfg.reg.cls (nsp.getD ['/'])) (cfg.reg.cls Dispatch.star)
          (cfg.reg.clsMethod (nsp.getD ['/']) ("on_".toList ++ ev))
          (cfg.reg.clsMethod Dispatch.star ("on_".toList ++ ev))) := by
  rw [step_invokes_dispatch h hc hs hsync, C13.precedence_table]
  rfl

-- non-vacuity: the demo state of C05 (two transports connected to `/`), the frame "e"
example : (Server.step C05.dec0 C05.cfg0 C05.demo0 (.frame C05.tA (.str ['e']))).2.filter
      Server.Out.isInvoke =
    invokesOf ['/'] ['e', 'v'] [.str (Server.sidName 0), .int 1]
      (Dispatch.resolve .server (serverReg C05.cfg0.reg) ['/'] ['e', 'v']) :=
  step_invokes_dispatch C05.demo0_wf
    (.text (p := ⟨EVENT, none, some 3, some (.arr [.str ['e', 'v'], .int 1])⟩) (n := 0)
      (by decide) rfl rfl) (by decide) rfl

/-- The reserved events of the server (`connect`, `disconnect`: what `_handle_connect`,
    `_handle_disconnect` and `disconnect()` resolve) never reach a catch-all *event* handler
    (`handlers[n]['*']`, for any key `n`) in the server-core model. -/
theorem server_reserved_never_catchall (reg : Server.Registry) (ns ev : Str) (args : List J)
    (hev : ev = "connect".toList ∨ ev = "disconnect".toList) (n : Str) (a : List J) :
    Server.resolve reg ns (.str ev) args ≠ .ok (.fn (.fn n Dispatch.star) a) := by
  rw [server_resolve_eq]
  have hk := C13.connect_disconnect_never_catchall .server (serverReg reg) ns ev
    (hev.elim Or.inl (fun h => Or.inr (Or.inl h)))
  have hne : ev ≠ Dispatch.star := by rcases hev with h | h <;> subst h <;> decide
  intro he
  cases hres : Dispatch.resolve .server (serverReg reg) ns ev with
  | invoke slot pre =>
    rw [hres] at he
    cases slot <;> simp [serverRes, serverSlot, Dispatch.Slot.isFn] at he
    · exact hne he.1.2
    · exact (hk pre).1 hres
    · exact hne he.1.2
    · exact (hk pre).2 hres
  | _ => rw [hres] at he; simp [serverRes] at he

/-- **C13 for the client model.**  An EVENT the server sends (no binary packet pending, transport
    connected), with the registry the driver instantiates `Cfg.resolve` with: `_trigger_event`
    runs once, and the callable that runs is the one `Dispatch.resolve .client` selects. -/
theorem client_event_dispatch (r : Client.Reg) (ret : Client.Slot → List J → Data) (c : Client.Cli)
    (raw : J) (ns : Option Client.Ns) (id : Option Nat) (name : Str) (args : List J)
    (hb : c.binbuf = none) (he : c.eio = .connected) :
    C09.trigs (Client.deliver ⟨r.resolve, ret⟩ c
        (.msg raw (.ok (⟨EVENT, ns, id, some (.arr (.str name :: args))⟩, 0)))).2 =
      [(name, Client.nsOr ns,
        clientRes r (Client.nsOr ns) name args
          (Dispatch.resolve .client (clientReg r) (Client.nsOr ns) name))] := by
  rw [← client_resolve_eq]
  exact (C09.invoke_once ⟨r.resolve, ret⟩ c raw ns id name args hb he).2

end Sio.GlueDispatch
