/-
  C01 — Packet codec: encode/decode round-trip and Socket.IO v5 wire conformance.

  Property theorems; the proofs are short appeals to Sio/Lemmas/Codec*.lean.  The
  predicates used in the statements (`NoReservedKey`, `NoBin`, `binLeaves`, `phNums`, `TopOK`,
  `WFHdr`, `BodyOK`, `StartOK`, `PayloadOK`, `WFCore`, `WF`, `WFArgs`, `normNs`, `Packet.norm`,
  `Packet.wire`) are defined in Sio/Lemmas/CodecDefs.lean (`AsciiCls`, `DecLt10` in
  Lemmas/CodecDigits.lean; `FltOK`, `FltLits` in Lemmas/JsonNum.lean, Lemmas/JsonRoundtrip.lean),
  the model in Sio/Model/Codec.lean, the independent specification codec in
  Sio/Model/CodecSpec.lean, the concrete JSON reader in Sio/Model/JsonParse.lean.

  Parameters (not verified here, supplied and exercised by the correspondence harness):
  * `cls`   — Python's `str.isdigit()`/`int()` table; only `AsciiCls cls` (it is right on ASCII)
              is assumed, resp. `DecLt10 cls` (digit values are below ten) for the guards;
  * `dumps`/`loads` — the JSON text layer; assumed only at the *one* value that is printed
              (`hrt`, `hstart` below); `hstart` is proved for the Lean printer `J.dumps`, and
              §7 instantiates both with the concrete `J.dumps`/`J.loads` and proves `hrt`
              (`loads_dumps`), so that `roundtrip_concrete` has no JSON hypothesis left.
-/
import Sio.Lemmas.CodecPacket
import Sio.Lemmas.CodecSpec
import Sio.Lemmas.CodecGuards
import Sio.Lemmas.CodecHdrConv
import Sio.Lemmas.JsonRoundtrip
namespace Sio.C01
open Sio

/-! ## a concrete non-trivial packet for the non-vacuity examples

`Packet(EVENT, ["ev", b"\x01\x02", {"k": [b"\x03", "-1"]}, 7], namespace="/chat?x=1", id=12)`
after promotion to BINARY_EVENT: two optional header fields, a query string, byte strings at
depth 1 and 3, a string that starts with `-`. -/

def exData : J :=
  .arr [.str "ev".toList, .bin [1, 2], .obj [("k".toList, .arr [.bin [3], .str "-1".toList])], .int 7]

def exP : Packet := ⟨BINARY_EVENT, some "/chat?x=1".toList, some 12, some exData⟩

/-- a `loads` that inverts `J.dumps` at the one value the example prints -/
def exLoads (s : Str) : Except Err J :=
  if s = J.dumps (decon exData []).1 then .ok (decon exData []).1 else .error .jsonError

theorem exP_wf : WF exP = true := by decide +kernel
theorem exP_mk : mkPacket true EVENT (some exData) (some "/chat?x=1".toList) (some 12) none = .ok exP := rfl

/-- `exLoads` is faithful at the value printed for `exP` -/
theorem exLoads_rt : ∀ j, exP.wire.data = some j → exLoads (J.dumps j) = .ok j := by
  rintro _ ⟨⟩; exact if_pos rfl

/-! ## 1. binary deconstruction / reconstruction -/

/-- Reconstruction undoes deconstruction, at any nesting depth, for an arbitrary accumulator
    prefix `acc` (placeholders index into `acc ++ leaves`) and any continuation `rest` of the
    attachment list. -/
theorem recon_decon_gen (j : J) (acc rest : List Bytes) (h : NoReservedKey j = true) :
    recon (((decon j acc).2 ++ rest).map J.bin) (decon j acc).1 = .ok j :=
  Sio.recon_decon_gen j acc rest h

theorem recon_decon (j : J) (h : NoReservedKey j = true) :
    recon ((decon j []).2.map J.bin) (decon j []).1 = .ok j := by
  simpa using Sio.recon_decon_gen j [] [] h

example : NoReservedKey exData = true ∧ (decon exData []).2 = [[1, 2], [3]] := by decide +kernel

/-- The attachments are the byte strings in depth-first order, the text part contains none, and
    its placeholders are numbered `0, 1, 2, …` in depth-first order. -/
theorem decon_dfs (j : J) :
    (decon j []).2 = binLeaves j ∧ NoBin (decon j []).1 = true ∧
    (NoReservedKey j = true → phNums (decon j []).1 = List.range (binLeaves j).length) := by
  refine ⟨by simpa using decon_snd j [], noBin_decon j [], fun h => ?_⟩
  simpa [List.range_eq_range'] using phNums_decon j [] h

/-- the same from an arbitrary accumulator: numbering continues at `acc.length` -/
theorem decon_dfs_gen (j : J) (acc : List Bytes) :
    (decon j acc).2 = acc ++ binLeaves j ∧ NoBin (decon j acc).1 = true ∧
    (NoReservedKey j = true →
      phNums (decon j acc).1 = List.range' acc.length (binLeaves j).length) :=
  ⟨decon_snd j acc, noBin_decon j acc, phNums_decon j acc⟩

example : phNums (decon exData []).1 = [0, 1] := by decide +kernel

/-! ## 2. header round trip -/

/-- Every header of the property's quantifier, followed by any text that cannot be mistaken for
    a header field (`BodyOK`, the weakest such condition: see its definition), is read back
    exactly — for *all* values of the adjacent decimal fields. -/
theorem hdr_roundtrip {cls : Char → DC} (hcls : AsciiCls cls) (t : Nat) (nsp : Option Str)
    (id natt : Option Nat) (body : Str) (hwf : WFHdr t nsp id natt = true)
    (hb : BodyOK cls nsp id natt body = true) :
    decodeHdr cls (encodeHdr t nsp id natt ++ body) = .ok ⟨t, normNs nsp, id, body, natt.getD 0⟩ :=
  hdr_roundtrip_lem hcls hwf hb

/-- `BodyOK` is exactly the weakest condition: for a well-formed header the round trip holds
    *iff* the text that follows satisfies it. -/
theorem hdr_roundtrip_iff {cls : Char → DC} (hcls : AsciiCls cls) (t : Nat) (nsp : Option Str)
    (id natt : Option Nat) (body : Str) (hwf : WFHdr t nsp id natt = true) :
    decodeHdr cls (encodeHdr t nsp id natt ++ body) = .ok ⟨t, normNs nsp, id, body, natt.getD 0⟩
      ↔ BodyOK cls nsp id natt body = true :=
  ⟨bodyOK_necessary hcls hwf, hdr_roundtrip_lem hcls hwf⟩

/-- header-independent corollary: the body is empty or starts with an ASCII character other
    than a digit, `-` and `/` -/
theorem hdr_roundtrip_start {cls : Char → DC} (hcls : AsciiCls cls) (t : Nat) (nsp : Option Str)
    (id natt : Option Nat) (body : Str) (hwf : WFHdr t nsp id natt = true)
    (hb : body = [] ∨ StartOK body = true) :
    decodeHdr cls (encodeHdr t nsp id natt ++ body) = .ok ⟨t, normNs nsp, id, body, natt.getD 0⟩ := by
  rcases hb with rfl | hb
  · exact hdr_roundtrip_lem hcls hwf rfl
  · exact hdr_roundtrip_lem hcls hwf (bodyOK_of_startOK hcls hb)

example : StartOK "[\"a-b\"]".toList = true ∧ StartOK "{}".toList = true ∧
    StartOK "-5".toList = false ∧ StartOK "5".toList = false := by decide +kernel

/-- the subtle case: id present, no namespace, non-binary type, a `-` inside the
    body: `2` `12` `["a-b"]` -/
example : AsciiCls asciiCls ∧ WFHdr 2 none (some 12) none = true ∧
    BodyOK asciiCls none (some 12) none "[\"a-b\"]".toList = true ∧
    encodeHdr 2 none (some 12) none ++ "[\"a-b\"]".toList = "212[\"a-b\"]".toList :=
  ⟨asciiCls_ascii, by decide +kernel, by decide +kernel, by decide +kernel⟩

/-- `BodyOK` is weaker than `StartOK`: a negative number after a header *without* id (or with a
    namespace) is read back — `Packet(CONNECT_ERROR, data=-5)` ↦ `"4-5"` ↦ data `-5`,
    `"4/ns,3-5"` ↦ id 3, data `-5` (both confirmed on the real code) -/
example : BodyOK asciiCls none none none "-5".toList = true ∧
    BodyOK asciiCls (some "/ns".toList) (some 3) none "-5".toList = true ∧
    BodyOK asciiCls none (some 3) none "-5".toList = false ∧
    decodeHdr asciiCls "4-5".toList = .ok ⟨4, none, none, "-5".toList, 0⟩ := by
  repeat rw [String.toList_ofList]
  exact ⟨by decide +kernel, by decide +kernel, by decide +kernel, rfl⟩

example : WFNs (some "/chat?x=1".toList) = true ∧ WFNs (some "/a,b".toList) = false ∧
    WFNs (some "chat".toList) = false ∧
    nsPath (normNs (some "/chat?x=1".toList)) = "/chat".toList ∧ nsPath (normNs none) = "/".toList := by
  decide +kernel

/-- the namespace as a path: decoding yields the path without its query string -/
theorem nsPath_normNs (nsp : Option Str) (h : WFNs nsp = true) :
    nsPath (normNs nsp) = (nsPath nsp).takeWhile (· != '?') := by
  cases nsp with
  | none => rfl
  | some ns =>
    by_cases hd : ns = ['/']
    · subst hd; rfl
    · simp [normNs, nsPath, hd]

/-! ## 3. packet round trip and attachment hand-back -/

/-- Encoding a packet, decoding the text frame and handing the attachments back one by one
    yields the same packet (namespace normalised): the text frame decodes to the wire packet and
    announces exactly the number of attachments produced; after the last attachment the packet
    is complete (`.inr`), with no attachment nothing is pending (`.inl` with need 0).

    This is the statement under the *weakest* hypotheses: `WFCore` (no restriction on the
    top-level payload) and `PayloadOK` — the printed JSON text is non-empty and cannot be
    mistaken for a field of *this* header.  It covers e.g. `Packet(CONNECT_ERROR, data=-5)`. -/
theorem roundtrip_weakest {cls : Char → DC} (hcls : AsciiCls cls) {dumps : J → Str}
    {loads : Str → Except Err J} (p : Packet)
    (hrt : ∀ j, p.wire.data = some j → loads (dumps j) = .ok j)
    (hbody : ∀ j, p.wire.data = some j → PayloadOK cls p (dumps j) = true)
    (hwf : WFCore p = true) :
    let atts := (encode dumps p).2.getD []
    decode cls loads (encode dumps p).1 = .ok (p.wire, atts.length) ∧
    feed ⟨p.wire, atts.length, []⟩ (atts.map J.bin)
      = .ok (if atts = [] then .inl ⟨p.norm, 0, []⟩ else .inr p.norm) :=
  ⟨decode_encode hcls hrt hbody hwf, feed_encode hwf⟩

/-- `Packet(CONNECT_ERROR, data=-5, namespace="/ns", id=3)` ↦ `"4/ns,3-5"` is inside
    `roundtrip_weakest` although its payload is a bare number -/
example : WFCore ⟨CONNECT_ERROR, some "/ns".toList, some 3, some (.int (-5))⟩ = true ∧
    PayloadOK asciiCls ⟨CONNECT_ERROR, some "/ns".toList, some 3, some (.int (-5))⟩
      (J.dumps (.int (-5))) = true ∧
    (encode J.dumps ⟨CONNECT_ERROR, some "/ns".toList, some 3, some (.int (-5))⟩).1
      = "4/ns,3-5".toList := by decide +kernel

/-- The property as stated (DESIGN §5): for well-formed packets (`WF`: payload not a bare number)
    it suffices that the JSON text starts like a JSON text that is not a number (`StartOK`). -/
theorem roundtrip {cls : Char → DC} (hcls : AsciiCls cls) {dumps : J → Str}
    {loads : Str → Except Err J} (p : Packet)
    (hrt : ∀ j, p.wire.data = some j → loads (dumps j) = .ok j)
    (hstart : ∀ j, p.wire.data = some j → StartOK (dumps j) = true)
    (hwf : WF p = true) :
    let atts := (encode dumps p).2.getD []
    decode cls loads (encode dumps p).1 = .ok (p.wire, atts.length) ∧
    feed ⟨p.wire, atts.length, []⟩ (atts.map J.bin)
      = .ok (if atts = [] then .inl ⟨p.norm, 0, []⟩ else .inr p.norm) :=
  roundtrip_weakest hcls p hrt (fun j h => payloadOK_of_startOK hcls p (hstart j h)) (wf_core hwf)

/- The global form of DESIGN §5 (`hrt : ∀ j, NoBin j → loads (dumps j) = ok j`,
   `hstart : ∀ j, TopOK j → StartOK (dumps j)`) implies the pointwise hypotheses above:
   the printed value is `NoBin` and `TopOK` (`Sio.wire_json_hyps`).  It is not stated as a theorem
   of its own because no natural printer satisfies the global `hrt` (float literals are opaque
   text, so `flt "1"` and `int 1` print alike); the pointwise form is the stronger theorem. -/

/-- `hstart` holds for the Lean printer: it is discharged, not assumed. -/
theorem dumps_start (j : J) (h : TopOK j = true) : StartOK (J.dumps j) = true :=
  dumps_startOK j h

/-- For packets made by the constructor (with binary auto-detection), printed by `J.dumps`:
    only the `loads ∘ dumps` hypothesis at the printed value remains. -/
theorem roundtrip_mk {cls : Char → DC} (hcls : AsciiCls cls) {loads : Str → Except Err J}
    (t : Nat) (d : Option J) (nsp : Option Str) (id : Option Nat) (p : Packet)
    (hargs : WFArgs t d nsp id = true) (hmk : mkPacket true t d nsp id none = .ok p)
    (hrt : ∀ j, p.wire.data = some j → loads (J.dumps j) = .ok j) :
    let atts := (encode J.dumps p).2.getD []
    decode cls loads (encode J.dumps p).1 = .ok (p.wire, atts.length) ∧
    feed ⟨p.wire, atts.length, []⟩ (atts.map J.bin)
      = .ok (if atts = [] then .inl ⟨p.norm, 0, []⟩ else .inr p.norm) :=
  have hwf := wf_of_mkPacket hargs hmk
  roundtrip hcls p hrt (fun j h => dumps_startOK j (wire_json_hyps hwf h).2) hwf

/-- non-vacuity: the hypotheses of `roundtrip`/`roundtrip_mk` hold for `exP`, and the frame is
    the expected one -/
example : WFArgs EVENT (some exData) (some "/chat?x=1".toList) (some 12) = true ∧
    (∀ j, exP.wire.data = some j → exLoads (J.dumps j) = .ok j) ∧
    (encode J.dumps exP).1 = ("52-/chat?x=1,12[\"ev\",{\"_placeholder\":true,\"num\":0}," ++
      "{\"k\":[{\"_placeholder\":true,\"num\":1},\"-1\"]},7]").toList := by
  rw [String.toList_append, String.toList_ofList, String.toList_ofList]
  exact ⟨by decide +kernel, exLoads_rt, by decide +kernel⟩

/-- `handback`: wherever the attachment list is split, the attachment at the split point is
    answered "more" unless it is the last one, which completes the packet `norm p`; any
    attachment after that is refused with `ValueError`. -/
theorem handback {dumps : J → Str} (p : Packet) (hwf : WFCore p = true) :
    let atts := (encode dumps p).2.getD []
    (∀ (pre post : List J) (b : J), atts.map J.bin = pre ++ b :: post →
      addAttachment ⟨p.wire, atts.length, pre⟩ b
        = .ok (if post = [] then .complete p.norm
               else .more ⟨p.wire, atts.length, pre ++ [b]⟩)) ∧
    (∀ (pk : Packet) (x : J),
      addAttachment ⟨pk, atts.length, atts.map J.bin⟩ x = .error .valueError) := by
  refine ⟨fun pre post b hsplit => ?_, fun _ x => addAttachment_extra x (by simp)⟩
  have hlen : ((encode dumps p).2.getD []).length = pre.length + (post.length + 1) := by
    simpa using congrArg List.length hsplit
  rw [encode_atts] at hsplit
  rw [hlen]
  cases post with
  | cons b' rest => rw [addAttachment_more b (by simp)]; simp
  | nil =>
    -- the last attachment: the packet has a payload, which the attachments rebuild
    obtain ⟨j, hd, ha, hw⟩ := data_of_atts_ne (p := p) (by intro h; simp [h] at hsplit)
    rw [addAttachment_last b (by simp) hw (by rw [← hsplit, ha]; exact recon_wire hwf hd)]
    simp [Packet.wire, Packet.norm, hd]

/-- independent of any packet: before the count is reached the answer is "more", once it is
    reached every further attachment is refused -/
theorem handback_more (pk : Packet) (need : Nat) (got : List J) (b : J)
    (h : got.length + 1 < need) :
    addAttachment ⟨pk, need, got⟩ b = .ok (.more ⟨pk, need, got ++ [b]⟩) :=
  addAttachment_more b h

theorem handback_refuse (pk : Packet) (need : Nat) (got : List J) (b : J) (h : need ≤ got.length) :
    addAttachment ⟨pk, need, got⟩ b = .error .valueError :=
  addAttachment_extra b h

example : WFCore exP = true ∧
    ((encode J.dumps exP).2.getD []).map J.bin = [J.bin [1, 2]] ++ J.bin [3] :: [] ∧
    ([J.bin [1, 2]] : List J).length + 1 < 3 ∧ 2 ≤ ([J.bin [1, 2], J.bin [3]] : List J).length :=
  ⟨by decide +kernel, rfl, by decide, by decide⟩

/-! ## 4. byte strings only for events and acknowledgements -/

theorem binary_only_event_ack (t : Nat) (d : Option J) (nsp : Option Str) (id : Option Nat) :
    (∃ e, mkPacket true t d nsp id none = .error e) ↔
      ((∃ j, d = some j ∧ binLeaves j ≠ []) ∧ t ≠ EVENT ∧ t ≠ ACK) := by
  cases d with
  | none => simp [mkPacket]
  | some j =>
    cases hb : j.isBinary with
    | false => simp [mkPacket, hb, (isBinary_false_iff_leaves j).mp hb]
    | true =>
      have hl := (isBinary_iff_leaves j).mp hb
      by_cases h1 : t = EVENT
      · simp [mkPacket, hb, h1]
      · by_cases h2 : t = ACK
        · subst h2; simp [mkPacket, hb, ACK, EVENT]
        · simp [mkPacket, hb, h1, h2, hl]

/-- and the error is always `ValueError`, also with an explicit `binary=` argument -/
theorem binary_error_is_valueError (t : Nat) (d : Option J) (nsp : Option Str) (id : Option Nat)
    (b : Option Bool) (e : Err) (h : mkPacket true t d nsp id b = .error e) : e = .valueError := by
  unfold mkPacket at h
  extract_lets isBin at h
  -- the only `.error` in `mkPacket` is the `ValueError` of the innermost branch
  split at h
  · split at h
    · cases h
    · split at h
      · cases h
      · cases h; rfl
  · cases h

example : (∃ e, mkPacket true CONNECT (some exData) none none none = .error e) :=
  ⟨.valueError, rfl⟩

/-- the constructor promotes exactly EVENT and ACK with a binary payload -/
theorem mk_wellformed (t : Nat) (d : Option J) (nsp : Option Str) (id : Option Nat) (p : Packet)
    (hargs : WFArgs t d nsp id = true) (hmk : mkPacket true t d nsp id none = .ok p) :
    WF p = true :=
  wf_of_mkPacket hargs hmk

/-! ## 5. wire conformance against the independent specification codec -/

/-- `encode` writes exactly the text frame and the attachment list that the grammar of the
    Socket.IO v5 protocol prescribes — for every packet, no hypothesis. -/
theorem encode_is_spec (dumps : J → Str) (p : Packet) :
    encode dumps p = ((Spec.frame dumps p).1,
      if isBinType p.type then some (Spec.frame dumps p).2 else none) := by
  rw [encode_eq, spec_frame_eq]; rfl

/-- The grammar-directed parser of the specification accepts the frame and reads the wire
    packet and the attachment count from it. -/
theorem spec_accepts {dumps : J → Str} {loads : Str → Except Err J} (p : Packet)
    (hrt : ∀ j, p.wire.data = some j → loads (dumps j) = .ok j)
    (hstart : ∀ j, p.wire.data = some j → StartOK (dumps j) = true)
    (hwf : WF p = true) :
    Spec.parse loads (Spec.frame dumps p).1 = .ok (p.wire, (Spec.frame dumps p).2.length) :=
  spec_accepts_lem hrt hstart (wf_core hwf)

/-- The specification's reassembly puts the byte strings back: placeholders are numbered as
    the specification says. -/
theorem spec_fill (j : J) (h : NoReservedKey j = true) :
    Spec.fill (Spec.blobs j) (Spec.strip 0 j) = some j := by
  rw [spec_blobs, show Spec.strip 0 j = (decon j []).1 from spec_strip j []]
  simpa using spec_fill_gen j [] [] h

/-- In the other direction: frames produced by the specification codec are accepted by this
    decoder. -/
theorem spec_frames_decode {cls : Char → DC} (hcls : AsciiCls cls) {dumps : J → Str}
    {loads : Str → Except Err J} (p : Packet)
    (hrt : ∀ j, p.wire.data = some j → loads (dumps j) = .ok j)
    (hstart : ∀ j, p.wire.data = some j → StartOK (dumps j) = true)
    (hwf : WF p = true) :
    decode cls loads (Spec.frame dumps p).1 = .ok (p.wire, (Spec.frame dumps p).2.length) ∧
    feed ⟨p.wire, (Spec.frame dumps p).2.length, []⟩ ((Spec.frame dumps p).2.map J.bin)
      = .ok (if (Spec.frame dumps p).2 = [] then .inl ⟨p.norm, 0, []⟩ else .inr p.norm) := by
  rw [spec_frame_encode]
  exact roundtrip hcls p hrt hstart hwf

example : Spec.parse exLoads (Spec.frame J.dumps exP).1 = .ok (exP.wire, 2) :=
  spec_accepts exP exLoads_rt (fun j h => dumps_startOK j (wire_json_hyps exP_wf h).2) exP_wf

/-! ## 6. guards (reused by C12) -/

/-- whatever the input: an accepted header announces fewer than `10^10` attachments … -/
theorem hdr_natt_guard {cls : Char → DC} (hd : DecLt10 cls) (s : Str) (h : Hdr)
    (hh : decodeHdr cls s = .ok h) : h.natt < 10 ^ 10 :=
  decodeHdr_natt_bound hd hh

/-- … and carries an id below `10^100` -/
theorem hdr_id_guard {cls : Char → DC} (hd : DecLt10 cls) (s : Str) (h : Hdr) (i : Nat)
    (hh : decodeHdr cls s = .ok h) (hi : h.id = some i) : i < 10 ^ 100 :=
  decodeHdr_id_bound hd hh hi

/-- the hypotheses are met by the ASCII table, and the bound is attained -/
example : DecLt10 asciiCls := asciiCls_decLt10
example : ∃ h, decodeHdr asciiCls "59999999999-".toList = .ok h ∧ h.natt = 9999999999 := by
  rw [String.toList_ofList]
  exact ⟨⟨5, none, none, [], 9999999999⟩, rfl, rfl⟩

/-! ## 7. phase 2: the JSON text layer made concrete

`J.loads` (Sio/Model/JsonParse.lean) is a recursive-descent reader for compact JSON: strings with
all escapes including `\uXXXX` surrogate pairs, integers exactly, float literals kept as text.
With it the hypothesis `hrt` of `roundtrip` is discharged: nothing about JSON is assumed any more,
only that float leaves carry well-formed literals (`FltLits`; every `repr` of a finite Python
float is one). -/

/-- The concrete reader inverts the concrete printer on every tree without byte strings. -/
theorem loads_dumps (j : J) (hb : NoBin j = true) (hf : FltLits j = true) :
    J.loads (J.dumps j) = .ok j :=
  loads_dumps_lem j hb hf

example : NoBin (decon exData []).1 = true ∧ FltLits (decon exData []).1 = true ∧
    FltLits (.arr [.flt "1.5e+10".toList, .flt "-0.0".toList, .str "x".toList]) = true := by
  decide +kernel

/-- `roundtrip` with both JSON parameters instantiated: no hypothesis on the text layer. -/
theorem roundtrip_concrete {cls : Char → DC} (hcls : AsciiCls cls) (p : Packet)
    (hwf : WF p = true) (hfl : optAll FltLits p.data = true) :
    let atts := (encode J.dumps p).2.getD []
    decode cls J.loads (encode J.dumps p).1 = .ok (p.wire, atts.length) ∧
    feed ⟨p.wire, atts.length, []⟩ (atts.map J.bin)
      = .ok (if atts = [] then .inl ⟨p.norm, 0, []⟩ else .inr p.norm) :=
  roundtrip hcls p
    (fun j h => loads_dumps_lem j (wire_json_hyps hwf h).1 (wire_fltLits hfl h))
    (fun j h => dumps_startOK j (wire_json_hyps hwf h).2) hwf

/-- likewise for the specification parser -/
theorem spec_accepts_concrete (p : Packet) (hwf : WF p = true)
    (hfl : optAll FltLits p.data = true) :
    Spec.parse J.loads (Spec.frame J.dumps p).1 = .ok (p.wire, (Spec.frame J.dumps p).2.length) :=
  spec_accepts p
    (fun j h => loads_dumps_lem j (wire_json_hyps hwf h).1 (wire_fltLits hfl h))
    (fun j h => dumps_startOK j (wire_json_hyps hwf h).2) hwf

example : WF exP = true ∧ optAll FltLits exP.data = true := by decide +kernel

/-! ## 7b. the wire format is unambiguous

A consequence of the round trip that the receiver relies on: no two well-formed packets that differ
(after namespace normalisation) are ever sent as the same frames — whatever the receiver rebuilds
is what the sender meant. -/

/-- Two well-formed packets whose encodings (text frame and attachment list) coincide are the
    same packet up to namespace normalisation. -/
theorem encode_unambiguous {cls : Char → DC} (hcls : AsciiCls cls) (p q : Packet)
    (hp : WF p = true) (hq : WF q = true)
    (hfp : optAll FltLits p.data = true) (hfq : optAll FltLits q.data = true)
    (he : encode J.dumps p = encode J.dumps q) : p.norm = q.norm := by
  have rp := roundtrip_concrete hcls p hp hfp
  have rq := roundtrip_concrete hcls q hq hfq
  simp only [he] at rp
  obtain ⟨dp, fp⟩ := rp
  obtain ⟨dq, fq⟩ := rq
  have hw : p.wire = q.wire := (Prod.mk.inj (Except.ok.inj (dp.symm.trans dq))).1
  rw [hw, fq] at fp
  injection fp with fp
  split at fp
  · injection fp with fp
    injection fp with fp
    exact fp.symm
  · injection fp with fp
    exact fp.symm

/-- contrapositive, in the form a reader of the wire uses it: different packets, different frames -/
theorem encode_distinguishes {cls : Char → DC} (hcls : AsciiCls cls) (p q : Packet)
    (hp : WF p = true) (hq : WF q = true)
    (hfp : optAll FltLits p.data = true) (hfq : optAll FltLits q.data = true)
    (hne : p.norm ≠ q.norm) : encode J.dumps p ≠ encode J.dumps q :=
  fun he => hne (encode_unambiguous hcls p q hp hq hfp hfq he)

/-- non-vacuity: `exP` and the same packet with another ack id meet the hypotheses and differ -/
example : WF exP = true ∧ WF ⟨exP.type, exP.nsp, some 13, exP.data⟩ = true ∧
    optAll FltLits exP.data = true ∧
    exP.norm ≠ (⟨exP.type, exP.nsp, some 13, exP.data⟩ : Packet).norm :=
  ⟨by decide +kernel, by decide +kernel, by decide +kernel,
    fun h => absurd (congrArg Packet.id h) (by decide)⟩

/-! ## 8. the domain boundary (informational; DESIGN §5 C01)

A bare number as the top-level payload is outside the quantifier (`TopOK`): it is
indistinguishable from an id / an attachment count.  Both witnesses are reproduced on the real
code by the harness on every run. -/

/-- `Packet(CONNECT, data=5)` encodes to `"05"`, which reads as id 5 without payload -/
theorem number_payload_not_roundtrip :
    (encode J.dumps ⟨CONNECT, none, none, some (.int 5)⟩).1 = "05".toList ∧
    decodeHdr asciiCls "05".toList = .ok ⟨0, none, some 5, [], 0⟩ := by
  rw [String.toList_ofList]; exact ⟨rfl, rfl⟩

/-- `Packet(CONNECT_ERROR, id=3, data=-5)` encodes to `"43-5"`: three attachments, id 5 -/
theorem negative_payload_not_roundtrip :
    (encode J.dumps ⟨CONNECT_ERROR, none, some 3, some (.int (-5))⟩).1 = "43-5".toList ∧
    decodeHdr asciiCls "43-5".toList = .ok ⟨4, none, some 5, [], 3⟩ := by
  rw [String.toList_ofList]; exact ⟨rfl, rfl⟩

end Sio.C01
