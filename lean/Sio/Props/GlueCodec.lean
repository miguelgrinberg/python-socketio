/-
  Glue (codec constants) — the packet type numbers and the two digit limits of the codec model are
  the literals `packet.py` has now (`Sio/Generated/Constants.lean` is regenerated from the source by
  `harness/translate_constants.py`; a changed literal makes this file fail to build).
-/
import Sio.Model.Codec
import Sio.Lemmas.CodecHdr
import Sio.Lemmas.CodecGuards
import Sio.Generated.Constants
namespace Sio.GlueCodec
open Sio

/-- packet type numbers (`packet.py`) -/
theorem packet_types_eq :
    Sio.CONNECT = Generated.CONNECT ∧ Sio.DISCONNECT = Generated.DISCONNECT ∧
    Sio.EVENT = Generated.EVENT ∧ Sio.ACK = Generated.ACK ∧
    Sio.CONNECT_ERROR = Generated.CONNECT_ERROR ∧ Sio.BINARY_EVENT = Generated.BINARY_EVENT ∧
    Sio.BINARY_ACK = Generated.BINARY_ACK := by decide

/-- `packet_names` is indexed by the type numbers -/
theorem packet_names_consistent :
    Generated.packetNames[Generated.CONNECT]? = some "CONNECT".toList ∧
    Generated.packetNames[Generated.DISCONNECT]? = some "DISCONNECT".toList ∧
    Generated.packetNames[Generated.EVENT]? = some "EVENT".toList ∧
    Generated.packetNames[Generated.ACK]? = some "ACK".toList ∧
    Generated.packetNames[Generated.CONNECT_ERROR]? = some "CONNECT_ERROR".toList ∧
    Generated.packetNames[Generated.BINARY_EVENT]? = some "BINARY_EVENT".toList ∧
    Generated.packetNames[Generated.BINARY_ACK]? = some "BINARY_ACK".toList ∧
    Generated.packetNames.length = 7 := by decide +kernel

/-- `if dash > 10: raise ValueError('too many attachments')` -/
theorem attDigitLimit_eq : Sio.attDigitLimit = Generated.attDigitLimit := by decide

/-- `if not ep[i].isdigit() or i >= 100: break` -/
theorem idDigitLimit_eq : Sio.idDigitLimit = Generated.idDigitLimit := by decide

/-- The two resource guards of C01 / C12 with the source's literals: an accepted header announces
    fewer than `10 ^ limit` attachments and carries an id below `10 ^ limit`. -/
theorem header_guards {cls : Char → DC} (hd : DecLt10 cls) {s : Str} {h : Hdr}
    (hh : decodeHdr cls s = .ok h) :
    h.natt < 10 ^ Generated.attDigitLimit ∧ ∀ i, h.id = some i → i < 10 ^ Generated.idDigitLimit :=
  ⟨decodeHdr_natt_bound hd hh, fun _ hi => decodeHdr_id_bound hd hh hi⟩

/-- … and everything below the limits is accepted by the scanners. -/
theorem scanners_accept {cls : Char → DC} (hcls : AsciiCls cls) :
    (∀ n rest, n < 10 ^ Generated.attDigitLimit →
      scanAtt cls (natStr n ++ '-' :: rest) = .ok (n, rest)) ∧
    (∀ i body, i < 10 ^ Generated.idDigitLimit →
      (body = [] ∨ ∃ c r, body = c :: r ∧ (cls c).isDigit = false) →
      scanId cls (natStr i ++ body) = .ok (some i, body)) :=
  ⟨fun _ rest hn => scanAtt_count hcls hn rest, fun _ _ hi hb => scanId_id hcls hi hb⟩

end Sio.GlueCodec
