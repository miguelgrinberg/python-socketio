/-
  C04 (asyncio schedules) — "the disconnect handler runs exactly once … from any interleaving of
  these".

  Model: Sio/Model/Sched.lean with `atomicGate = true` (asyncio: `is_connected`+`pre_disconnect`
  are one step, nothing can run between them).  `st0` is ANY initial state (`Init`): any number of
  tasks of any kinds (`api`, `clientDisc`, `lost` with any namespace snapshot, `conn`, and `refuse` —
  a CONNECT whose connect handler refuses while the others are under way) at their first program
  counter, the sid connected to any set of namespaces, any set of namespaces kept alive by other
  clients.  `sched : List Nat` is ANY schedule — any length, any task indices (indices of finished
  tasks / out of range are no-ops).  Since every prefix of a schedule is a schedule, a statement
  about `run true st0 sched` for all `sched` is a statement about every intermediate state of every
  run.

  The refusing CONNECT (`_handle_connect`, `if success is False:`) is itself a terminating path of
  the session it registered, one that skips the disconnect handler: handler decides → gate
  (`is_connected` + `pre_disconnect`) → send the refusal → `manager.disconnect`.  `marks n` is the
  ghost record of the kinds of the tasks that passed the gate of namespace `n`; "the gate of `n` was
  won by a refusal" is `marks n = [.refuse]`.
-/
import Sio.Lemmas.Sched
namespace Sio.C04sched
open Sio.Sched

/-- The phase invariant (four phases of a session ended by a terminating cause, three of a session
    ended by its own refused CONNECT) holds after every schedule (= at every step of every
    schedule). -/
theorem async_inv (st0 : St) (h0 : Init st0) (sched : List Nat) :
    Inv st0.sh.mem (run true st0 sched) :=
  run_inv true st0 h0 sched nofun sched (List.prefix_refl _)

/-- the same, spelled out for the k-th step of a given schedule -/
theorem async_inv_every_step (st0 : St) (h0 : Init st0) (sched : List Nat) (k : Nat) :
    Inv st0.sh.mem (run true st0 (sched.take k)) :=
  async_inv st0 h0 (sched.take k)

/-- **Exactly once under every asyncio interleaving.**  For every schedule of any number of
    concurrent terminating tasks, refusing CONNECTs included:
    * the disconnect handler has run at most once per (sid, namespace) — at every step;
    * no task has raised and `_handle_eio_disconnect` has swallowed nothing — at every step;
    * at quiescence, for every namespace the sid was connected to and that at least one task
      targets: the sid is in no room and not pending, and EITHER a terminating cause won the gate,
      the handler ran exactly once and no refusal was sent, OR a refusing CONNECT won the gate, the
      refusal was sent exactly once and the handler did not run; when no refusing CONNECT has the
      namespace on its list, the handler ran exactly once;
    * a namespace the sid was not connected to: no handler call, no trace;
    * namespaces no task targets are unaffected (same membership, no call, nothing pending, no
      refusal, nobody passed the gate). -/
theorem async_disconnect_once (st0 : St) (h0 : Init st0) (sched : List Nat) :
    (∀ n, ncalls (run true st0 sched) n ≤ 1)
    ∧ anyRaised (run true st0 sched) = false
    ∧ (run true st0 sched).sh.contained = 0
    ∧ (allDone (run true st0 sched) = true → ∀ n, st0.sh.mem n = true → targeted st0 n = true →
        residue (run true st0 sched) n = false ∧
        ((ncalls (run true st0 sched) n = 1 ∧ (run true st0 sched).sh.refusals n = 0 ∧
            ∃ k, k ≠ Kind.refuse ∧ (run true st0 sched).sh.marks n = [k]) ∨
         (ncalls (run true st0 sched) n = 0 ∧ (run true st0 sched).sh.refusals n = 1 ∧
            (run true st0 sched).sh.marks n = [Kind.refuse])) ∧
        (refuseTargets st0 n = false → ncalls (run true st0 sched) n = 1))
    ∧ (∀ n, st0.sh.mem n = false →
        ncalls (run true st0 sched) n = 0 ∧ residue (run true st0 sched) n = false)
    ∧ (∀ n, targeted st0 n = false →
        (run true st0 sched).sh.mem n = st0.sh.mem n ∧ ncalls (run true st0 sched) n = 0 ∧
        (run true st0 sched).sh.pend n = 0 ∧ (run true st0 sched).sh.refusals n = 0 ∧
        (run true st0 sched).sh.marks n = []) :=
  have hI := async_inv st0 h0 sched
  ⟨inv_calls_le hI, inv_anyRaised hI, hI.noContained,
    quiescent_ended h0 (run_inv true st0 h0 sched nofun),
    inv_never hI, fun _ => untargeted true h0 sched⟩

/-- at most once, in the words of the property (DESIGN's name `C04.disconnect_once_sched`): at every
    step at most one handler call; at quiescence, for a targeted namespace of the sid: no trace, the
    handler count is 1 or — when a refusal was sent — 0; it is 0 exactly when the gate was won by a
    refusing CONNECT, 1 exactly when it was won by a terminating cause; and it is 1 whenever no
    refusing CONNECT has the namespace on its list. -/
theorem disconnect_once_sched (st0 : St) (h0 : Init st0) (sched : List Nat) (n : Ns) :
    ncalls (run true st0 sched) n ≤ 1 ∧
    (allDone (run true st0 sched) = true → st0.sh.mem n = true → targeted st0 n = true →
      (ncalls (run true st0 sched) n = 1 ∨
        (ncalls (run true st0 sched) n = 0 ∧ (run true st0 sched).sh.refusals n = 1)) ∧
      ((run true st0 sched).sh.calls n = [] ↔ (run true st0 sched).sh.marks n = [Kind.refuse]) ∧
      (ncalls (run true st0 sched) n = 1 ↔
        ∃ k, k ≠ Kind.refuse ∧ (run true st0 sched).sh.marks n = [k]) ∧
      (refuseTargets st0 n = false → ncalls (run true st0 sched) n = 1) ∧
      (run true st0 sched).sh.mem n = false ∧ (run true st0 sched).sh.pend n = 0) := by
  obtain ⟨h1, _, _, h4, _, _⟩ := async_disconnect_once st0 h0 sched
  refine ⟨h1 n, fun hd hm ht => ?_⟩
  obtain ⟨q2, q, qr⟩ := h4 hd n hm ht
  simp only [residue, Bool.or_eq_false_iff, decide_eq_false_iff_not] at q2
  rcases q with ⟨qa, _, k, hk, hm⟩ | ⟨qa, qb, hm⟩
  · refine ⟨.inl qa, ⟨fun hc => ?_, fun hx => ?_⟩, ⟨fun _ => ⟨k, hk, hm⟩, fun _ => qa⟩, qr, q2.1,
      by omega⟩
    · simp [ncalls, hc] at qa
    · cases hm.symm.trans hx; exact absurd rfl hk
  · refine ⟨.inr ⟨qa, qb⟩, ⟨fun _ => hm, fun _ => List.eq_nil_of_length_eq_zero qa⟩,
      ⟨fun hx => by omega, ?_⟩, qr, q2.1, by omega⟩
    rintro ⟨k, hk, hx⟩; cases hx.symm.trans hm; exact absurd rfl hk

/-- **A refused connection is never reported as ended.**  Once a refusing CONNECT has passed the
    gate of namespace `n` — after the prefix `s1` a task of kind `refuse` sits between its
    `pre_disconnect` and the end of its `manager.disconnect` (`refusedPast`), or the gate record of
    `n` names a refusal — no continuation `s2` of the schedule, whatever the other tasks do, adds a
    disconnect-handler call for `n`; and the refusal is the only task that ever passed that gate. -/
theorem refused_never_notified_after (st0 : St) (h0 : Init st0) (s1 s2 : List Nat) (n : Ns)
    (h : (run true st0 s1).tasks.any (refusedPast n) = true ∨
         Kind.refuse ∈ (run true st0 s1).sh.marks n) :
    (run true st0 (s1 ++ s2)).sh.calls n = [] ∧
    (run true st0 (s1 ++ s2)).sh.marks n = [Kind.refuse] :=
  refused_never_notified (async_inv st0 h0 s1) (async_inv st0 h0 (s1 ++ s2)) h

/-- **The gate is passed at most once, refusals included.**  At every step of every schedule, for
    every namespace: at most one task has ever passed the gate (so at most one terminating cause
    passes it before the connect handler answers, and none after a refusal passed); every handler
    call belongs to a passing task that is not a refusal; a refusal is sent only by a refusing
    CONNECT that passed; when a terminating cause `k` has passed, it is the only one and no refusal
    is ever sent for that session; when a refusal has passed, it is the only one and the handler is
    not called. -/
theorem refused_before_gate (st0 : St) (h0 : Init st0) (sched : List Nat) (n : Ns) :
    ((run true st0 sched).sh.marks n).length ≤ 1
    ∧ ncalls (run true st0 sched) n + nref ((run true st0 sched).sh.marks n)
        ≤ ((run true st0 sched).sh.marks n).length
    ∧ (run true st0 sched).sh.refusals n ≤ nref ((run true st0 sched).sh.marks n)
    ∧ (∀ k, k ≠ Kind.refuse → k ∈ (run true st0 sched).sh.marks n →
        (run true st0 sched).sh.marks n = [k] ∧ (run true st0 sched).sh.refusals n = 0)
    ∧ (Kind.refuse ∈ (run true st0 sched).sh.marks n →
        (run true st0 sched).sh.calls n = [] ∧ (run true st0 sched).sh.marks n = [Kind.refuse]) := by
  obtain ⟨g1, g2, g3, g4⟩ := gate_facts (async_inv st0 h0 sched) n
  refine ⟨g1, g2, g3, ?_, g4⟩
  intro k hk hmem
  have hl := marks_single g1 hmem
  exact ⟨hl, by simpa [hl, nref, hk] using g3⟩

/-! ### the reason clause: "… with a reason naming one of the causes in progress"

  `calls n` records every handler invocation with the kind of the task that made it — the `reason`
  argument (`SERVER_DISCONNECT` for `api`, `CLIENT_DISCONNECT` for `clientDisc`, the engine.io
  reason for `lost`).  `marks n` records the kinds of the tasks that passed the gate of `n`. -/

/-- **The reason is the gate winner's** — at every step of every schedule: when the handler of `n`
    has been invoked with reason `k`, the task that passed the gate of `n` is of kind `k`, and it is
    the only one that ever passed it. -/
theorem reason_is_gate_winner (st0 : St) (h0 : Init st0) (sched : List Nat) (n : Ns) (k : Kind) :
    (run true st0 sched).sh.calls n = [k] → (run true st0 sched).sh.marks n = [k] :=
  fun hc => ((calls_follow h0 (async_inv st0 h0 sched) n).2 k
    (hc ▸ List.mem_singleton_self k)).2.2

/-- **The handler calls follow the gate record** (strongest form) — at every step of every
    schedule, for every namespace:
    * `calls n` is the gate record `marks n` without refusals as soon as no passing task is still on
      its way to the handler (`cnt st n 2 = 0`: no task between its `pre_disconnect` and its
      `_trigger_event`), and empty before that;
    * so `calls n` is empty or equal to `marks n`, in particular a sublist of it;
    * every recorded reason `k` is not a refusal, `calls n = [k]` and `marks n = [k]`. -/
theorem reason_follows_gate (st0 : St) (h0 : Init st0) (sched : List Nat) (n : Ns) :
    CallsFollowMarks (run true st0 sched) n :=
  calls_follow h0 (async_inv st0 h0 sched) n

/-- **The reason names a cause in progress** — at every step of every schedule: every reason `k`
    with which the handler of `n` has been invoked is the kind of a task `i` of the initial state
    that has `n` on its list (so `n` is targeted), is not a refusal, and along the schedule that very
    task first executed `pre_disconnect(sid, n)` (`passedGate`: some step of the schedule is task `i`
    pushing `k` on the gate record of `n`) and later made the call (`ranHandler`: some later step of
    the schedule is task `i` pushing `k` on `calls n`). -/
theorem reason_names_cause_in_progress (st0 : St) (h0 : Init st0) (sched : List Nat) (n : Ns)
    (k : Kind) (hk : k ∈ (run true st0 sched).sh.calls n) :
    k ≠ Kind.refuse ∧ targeted st0 n = true ∧
    ∃ i t0, st0.tasks[i]? = some t0 ∧ t0.kind = k ∧ n ∈ t0.todo ∧
      passedGate true st0 sched i n k ∧ ranHandler true st0 sched i n k :=
  reason_cause h0 (async_inv st0 h0 sched) hk

/-- … and that cause is a terminating one: when the CONNECTs being accepted have not yet run their
    connect handler at the start (`connAtStart`, true of every `mkSt` state), every reason is
    `api` (`disconnect()`), `clientDisc` (DISCONNECT packet) or `lost` (transport loss). -/
theorem reason_is_terminating_cause (st0 : St) (h0 : Init st0) (hc : connAtStart st0)
    (sched : List Nat) (n : Ns) (k : Kind) (hk : k ∈ (run true st0 sched).sh.calls n) :
    k = .api ∨ k = .clientDisc ∨ k = .lost :=
  reason_kind h0 hc hk

/-- **Frame for bystanders.**  A task that is not a terminating path of this sid — in the model: a
    task at `chandler` / `csend` (a CONNECT being answered; for a refusing CONNECT: its connect
    handler deciding, before its `is_connected` test), in the harness also: a refused CONNECT
    of another transport, the disconnect of another client of the namespace, a repeated CONNECT or an
    EVENT of the same transport — changes none of the sid's shared variables, whatever the other
    tasks are doing; so `async_disconnect_once` holds verbatim with any number of such steps
    interleaved (they are steps of `conn` tasks of `st0`, which the theorem already quantifies over). -/
theorem bystander_frame (a : Bool) (st : St) (i : Nat) (t : Task) (hi : st.tasks[i]? = some t)
    (hp : t.pc = .chandler ∨ t.pc = .csend) : (step a st i).sh = st.sh := by
  unfold step
  rw [hi]
  rcases hp with hp | hp <;> simp [stepTask, hp]

/-- three concurrent causes on namespace 0 plus a suspended connect handler; the transport is also
    connected to namespace 1, which only the loss reaches; namespace 2 belongs to other clients -/
def ex0 : St := mkSt [(.api, [0]), (.clientDisc, [0]), (.lost, [0, 1, 2]), (.conn, [0])] [0, 1] [2]

example : Init ex0 := mkSt_init _ _ _

/-- a schedule that reaches quiescence with the `api` task winning the gate of namespace 0 while the
    DISCONNECT packet and the loss arrive during its send / handler suspension -/
example : allDone (run true ex0 [0, 1, 2, 3, 0, 2, 0, 2, 0, 2, 3, 2]) = true
    ∧ ncalls (run true ex0 [0, 1, 2, 3, 0, 2, 0, 2, 0, 2, 3, 2]) 0 = 1
    ∧ (run true ex0 [0, 1, 2, 3, 0, 2, 0, 2, 0, 2, 3, 2]).sh.calls 0 = [.api]
    ∧ (run true ex0 [0, 1, 2, 3, 0, 2, 0, 2, 0, 2, 3, 2]).sh.calls 1 = [.lost]
    ∧ targeted ex0 0 = true ∧ targeted ex0 1 = true ∧ targeted ex0 3 = false
    ∧ refuseTargets ex0 0 = false := by decide

/-- a refusing CONNECT for namespace 0 (task 0) racing with `disconnect()` (task 1) and a transport
    loss over both namespaces (task 2) -/
def ex1 : St := mkSt [(.refuse, [0]), (.api, [0]), (.lost, [0, 1])] [0, 1] []

example : Init ex1 := mkSt_init _ _ _

/-- the refusal wins the gate (handler decides, `is_connected`+`pre_disconnect`); `disconnect()` and
    the loss arrive while the refusal is being sent and find the session no longer connected: no
    disconnect handler for namespace 0, the refusal is sent once, no trace; namespace 1 is ended by
    the loss -/
example : allDone (run true ex1 [0, 0, 1, 2, 0, 0, 2, 2, 2]) = true
    ∧ (run true ex1 [0, 0, 1, 2, 0, 0, 2, 2, 2]).sh.calls 0 = []
    ∧ (run true ex1 [0, 0, 1, 2, 0, 0, 2, 2, 2]).sh.refusals 0 = 1
    ∧ (run true ex1 [0, 0, 1, 2, 0, 0, 2, 2, 2]).sh.marks 0 = [.refuse]
    ∧ (run true ex1 [0, 0, 1, 2, 0, 0, 2, 2, 2]).sh.calls 1 = [.lost]
    ∧ residue (run true ex1 [0, 0, 1, 2, 0, 0, 2, 2, 2]) 0 = false
    ∧ targeted ex1 0 = true ∧ refuseTargets ex1 0 = true ∧ refuseTargets ex1 1 = false := by decide

/-- `disconnect()` passes the gate while the connect handler is still deciding; the refusal then
    finds the session already going away and returns: handler once (reason: the api), no refusal -/
example : allDone (run true ex1 [0, 1, 0, 1, 1, 1, 2, 2, 2, 2]) = true
    ∧ (run true ex1 [0, 1, 0, 1, 1, 1, 2, 2, 2, 2]).sh.calls 0 = [.api]
    ∧ (run true ex1 [0, 1, 0, 1, 1, 1, 2, 2, 2, 2]).sh.refusals 0 = 0
    ∧ (run true ex1 [0, 1, 0, 1, 1, 1, 2, 2, 2, 2]).sh.marks 0 = [.api] := by decide

/-- the reason clause is not vacuous: where `disconnect()` wins (previous example) the reason and the
    gate record are both `[.api]`; mid-schedule, after `disconnect()` passed the gate and before its
    handler ran (prefix `[0, 1, 0]`), one task is on its way (`cnt … 2 = 1`), `calls 0 = []` while
    `marks 0 = [.api]`; where the refusal wins, `calls 0 = []` and the filter removes the refusal;
    on `ex0` the loss ends namespace 1 with reason `lost` and `disconnect()` namespace 0 -/
example : (run true ex1 [0, 1, 0, 1, 1, 1, 2, 2, 2, 2]).sh.calls 0 = [.api]
    ∧ (run true ex1 [0, 1, 0, 1, 1, 1, 2, 2, 2, 2]).sh.marks 0 = [.api]
    ∧ cnt (run true ex1 [0, 1, 0, 1, 1, 1, 2, 2, 2, 2]) 0 2 = 0
    ∧ cnt (run true ex1 [0, 1, 0]) 0 2 = 1
    ∧ (run true ex1 [0, 1, 0]).sh.calls 0 = []
    ∧ (run true ex1 [0, 1, 0]).sh.marks 0 = [.api]
    ∧ ((run true ex1 [0, 0, 1, 2, 0, 0, 2, 2, 2]).sh.marks 0).filter (· != Kind.refuse) = []
    ∧ (run true ex0 [0, 1, 2, 3, 0, 2, 0, 2, 0, 2, 3, 2]).sh.marks 0 = [.api]
    ∧ (run true ex0 [0, 1, 2, 3, 0, 2, 0, 2, 0, 2, 3, 2]).sh.marks 1 = [.lost]
    ∧ Kind.api ∈ (run true ex1 [0, 1, 0, 1, 1, 1, 2, 2, 2, 2]).sh.calls 0 := by decide

/-- the witnesses of `reason_names_cause_in_progress` on that schedule: task 1 of `ex1` is the
    `disconnect()` for namespace 0; its step after the prefix `[0]` is the gate passage, its step
    after the prefix `[0, 1, 0, 1]` is the handler call -/
example : ex1.tasks[1]? = some ⟨.api, [0], .check⟩
    ∧ passedGate true ex1 [0, 1, 0, 1, 1, 1, 2, 2, 2, 2] 1 0 .api
    ∧ ranHandler true ex1 [0, 1, 0, 1, 1, 1, 2, 2, 2, 2] 1 0 .api := by
  have hg : marksAt true (run true ex1 [0]) 1 0 .api :=
    ⟨⟨.api, [0], .check⟩, by decide, rfl, rfl, by decide⟩
  refine ⟨by decide, ⟨[0], ⟨[0, 1, 1, 1, 2, 2, 2, 2], rfl⟩, hg⟩,
    ⟨[0, 1, 0, 1], ⟨[1, 2, 2, 2, 2], rfl⟩, ?_, ⟨[0], ⟨[0, 1], rfl⟩, hg⟩⟩⟩
  exact ⟨⟨.api, [0], .handler⟩, by decide, rfl, rfl, by decide⟩

example : connAtStart ex0 ∧ connAtStart ex1 := ⟨mkSt_connAtStart _ _ _, mkSt_connAtStart _ _ _⟩

/-- the hypotheses of `refused_never_notified_after` are met after the prefix `[0, 0]` (both forms) -/
example : (run true ex1 [0, 0]).tasks.any (refusedPast 0) = true
    ∧ Kind.refuse ∈ (run true ex1 [0, 0]).sh.marks 0 := by decide

/-- the hypothesis of the cause clause of `refused_before_gate` is met -/
example : Kind.api ∈ (run true ex1 [0, 1]).sh.marks 0 := by decide

/-- the invariant is not trivially true: a state with two tasks past the gate violates it -/
example : ¬ Inv (fun _ => true)
    { tasks := [⟨.api, [0], .handler⟩, ⟨.clientDisc, [0], .handler⟩],
      sh := { (mkShared [0] []) with pend := fun _ => 2 } } := by
  intro h
  exact absurd (phase_iff.mp (h.phase 0)).fresh.2.1 (by decide)

/-- nor with refusals: a refusing CONNECT past the gate together with a handler call violates it -/
example : ¬ Inv (fun _ => true)
    { tasks := [⟨.refuse, [0], .cleanup⟩],
      sh := { (mkShared [0] []) with pend := fun _ => 1, calls := fun _ => [.api],
                                     marks := fun _ => [.refuse], refusals := fun _ => 1 } } := by
  intro h
  exact absurd ((phase_gate (h.phase 0)).2.2.2.2.1 (by decide)) (by decide)

end Sio.C04sched
