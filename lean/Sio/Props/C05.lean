/-
  C05 — incoming events: one handler invocation, one matching ACK, to the sender only; binary
  events are reassembled per transport; with inline handlers the outputs of a history are the
  concatenation of the per-input outputs (arrival order).

  Statements about `Sio.Server.step` / `run` for every decoder, configuration, registry and
  script, from every well-formed state (`Server.WF`, an invariant of all reachable states).
-/
import Sio.Lemmas.ServerOnce
namespace Sio.C05
open Sio Sio.Server Sio.Rooms

variable {dec : Str → Except Err (Packet × Nat)} {cfg : Cfg}

/-- A frame that completes an EVENT `(nsp, id, data)` (`Server.CompletesEvent`: a text EVENT
    packet, or the last attachment of a BINARY_EVENT) is handled by `_handle_event` on it. -/
theorem step_of_completesEvent {s s₀ : Srv} {t : Eio} {v : J} {nsp : Option Str} {id : Option Nat}
    {data : Option J} (h : CompletesEvent dec s t v nsp id data s₀) :
    step dec cfg s (.frame t v) = handleEvent cfg s₀ t nsp id data :=
  Server.step_of_completesEvent h

/-- the handler `resolve` selected, with its arguments -/
def target : Resolved → Option (Slot × List J)
  | .fn slot a => some (slot, a)
  | .clsCall slot a => some (slot, a)
  | _ => none

/-- the value that is acknowledged: the handler's return value; `None` for a class-based namespace
    without a method for the event; nothing when nobody is responsible or the handler raised -/
def returned (script : Script) (nEv : Nat) : Resolved → Option Data
  | .fn _ _ | .clsCall _ _ => match script.onEvent nEv with | .ret d => some d | .raise => none
  | .clsNoMethod => some .none
  | .notHandled => none

/-! ### the demo state: two transports connected to `/`, inline handlers -/

def reg0 : Registry := ⟨fun _ _ => true, fun _ => true, fun _ => false, fun _ _ => false⟩
def cfg0 : Cfg :=
  ⟨false, none, false, reg0, ⟨fun _ => .accept, fun _ => .ret (.one (.int 5)), fun _ => .ok⟩⟩
/-- toy decoder: "c" CONNECT; "e" EVENT id 3 `["ev", 1]`; "h" BINARY_EVENT, one attachment,
    `["ev", placeholder 0]` -/
def dec0 : Str → Except Err (Packet × Nat)
  | ['c'] => .ok (⟨CONNECT, none, none, none⟩, 0)
  | ['e'] => .ok (⟨EVENT, none, some 3, some (.arr [.str ['e', 'v'], .int 1])⟩, 0)
  | ['h'] => .ok (⟨BINARY_EVENT, none, none, some (.arr [.str ['e', 'v'], placeholder 0])⟩, 1)
  | ['u'] => .ok (⟨EVENT, none, some 4, some (.arr [.arr [], .int 1])⟩, 0)
  | _ => .error .valueError
def tA : Eio := ['A']
def tB : Eio := ['B']
def nsRoot : Ns := ['/']
def hist0 : List Input :=
  [.eioConnect tA, .eioConnect tB, .frame tA (.str ['c']), .frame tB (.str ['c'])]
def demo0 : Srv := (run dec0 cfg0 {} hist0).1
theorem demo0_wf : Server.WF demo0 := Server.WF.init.run dec0 cfg0 hist0

/-! ### `invoke_once` -/

/-- An EVENT `(nsp, id, ev :: args)` from a transport that is connected to the namespace with
    session `sid`, inline handlers: the step's outputs contain exactly one `invoke` when `resolve`
    (K8) selects a handler — that handler, with the arguments `resolve` built, which are
    `sid :: args` after the catch-all prefix — and none otherwise. -/
theorem invoke_once {s s₀ : Srv} (h : Server.WF s) {t : Eio} {v : J} {nsp : Option Str}
    {id : Option Nat} {ev : J} {args : List J} {sid : Sid} {r : Resolved}
    (hc : CompletesEvent dec s t v nsp id (some (.arr (ev :: args))) s₀)
    (hs : sidOf s.rooms (nsp.getD ['/']) t = some sid) (hsync : cfg.asyncHandlers = false)
    (hr : resolve cfg.reg (nsp.getD ['/']) ev (.str sid :: args) = .ok r) :
    (step dec cfg s (.frame t v)).2.filter Out.isInvoke =
        (match target r with
          | some (slot, a) => [.invoke slot a]
          | none => []) ∧
      ∀ slot a, target r = some (slot, a) → ∃ pre, a = pre ++ (.str sid :: args) := by
  rw [step_connected_event h hc hs]
  simp only [hsync, Bool.false_eq_true, if_false]
  constructor
  · rw [runHandler_invokes]
    simp only [evRes, hr]
    cases r <;> (try cases cfg.script.onEvent s₀.nEv) <;> rfl
  · exact fun slot a ht => resolve_target hr ht

example : CompletesEvent dec0 demo0 tA (.str ['e']) none (some 3)
    (some (.arr [.str ['e', 'v'], .int 1])) demo0 :=
  .text (p := ⟨EVENT, none, some 3, some (.arr [.str ['e', 'v'], .int 1])⟩) (n := 0)
    (by decide +kernel) rfl rfl
example : sidOf demo0.rooms nsRoot tA = some (sidName 0) := by decide +kernel
example : (step dec0 cfg0 demo0 (.frame tA (.str ['e']))).2 =
    [.invoke (.fn nsRoot ['e', 'v']) [.str (sidName 0), .int 1],
     .send tA (mkOut ACK nsRoot (some 3) [.int 5])] := by rfl

/-- An unhashable event name (`TypeError` at the first dictionary test): no invocation, no ACK. -/
theorem invoke_none_on_error {s s₀ : Srv} (h : Server.WF s) {t : Eio} {v : J} {nsp : Option Str}
    {id : Option Nat} {ev : J} {args : List J} {sid : Sid} {e : Err}
    (hc : CompletesEvent dec s t v nsp id (some (.arr (ev :: args))) s₀)
    (hs : sidOf s.rooms (nsp.getD ['/']) t = some sid) (hsync : cfg.asyncHandlers = false)
    (hr : resolve cfg.reg (nsp.getD ['/']) ev (.str sid :: args) = .error e) :
    step dec cfg s (.frame t v) = (s₀, [.raised e]) := by
  rw [step_connected_event h hc hs]
  simp only [hsync, Bool.false_eq_true, if_false]
  rw [runHandler_eq]
  simp only [evRes, hr]
  rfl

example : resolve cfg0.reg nsRoot (.arr []) [.str (sidName 0), .int 1] = .error .typeError := rfl
example : (step dec0 cfg0 demo0 (.frame tA (.str ['u']))).2 = [.raised .typeError] := by rfl

/-- With `async_handlers = True` the frame itself outputs nothing: exactly one background handler
    is queued (sid, transport, event, arguments, namespace, id), behind those already queued. -/
theorem invoke_queued {s s₀ : Srv} (h : Server.WF s) {t : Eio} {v : J} {nsp : Option Str}
    {id : Option Nat} {ev : J} {args : List J} {sid : Sid}
    (hc : CompletesEvent dec s t v nsp id (some (.arr (ev :: args))) s₀)
    (hs : sidOf s.rooms (nsp.getD ['/']) t = some sid) (hasync : cfg.asyncHandlers = true) :
    step dec cfg s (.frame t v) =
      ({ s₀ with bg := s₀.bg ++ [⟨sid, t, ev, args, nsp.getD ['/'], id⟩] }, []) := by
  rw [step_connected_event h hc hs]
  simp only [hasync, if_true]

/-- … and `settle` (the background tasks run) handles the queue front to back: the first queued
    event's handler output comes first, the rest follows from the state it leaves. -/
theorem settle_in_order {s : Srv} {b : Bg} {rest : List Bg} (hb : s.bg = b :: rest) :
    step dec cfg s .settle =
      ((step.drain cfg (runHandler cfg { s with bg := [] } b).1 [] rest).1,
        (runHandler cfg { s with bg := [] } b).2 ++
          (step.drain cfg (runHandler cfg { s with bg := [] } b).1 [] rest).2) := by
  have hc : ∀ (s' : Srv) (o : List Out), step.drain cfg s' o (b :: rest) =
      step.drain cfg (runHandler cfg s' b).1 (o ++ (runHandler cfg s' b).2) rest :=
    fun s' o => by rw [step.drain]
  rw [step, hb, hc, drain_outs_eq]
  simp

/-- An EVENT on a namespace the transport is not connected to: no output at all, the state is
    unchanged (a completed binary packet leaves the buffer). -/
theorem not_connected {s s₀ : Srv} {t : Eio} {v : J} {nsp : Option Str} {id : Option Nat} {ev : J}
    {args : List J} (hc : CompletesEvent dec s t v nsp id (some (.arr (ev :: args))) s₀)
    (hs : sidOf s.rooms (nsp.getD ['/']) t = none) :
    step dec cfg s (.frame t v) = (s₀, []) := by
  have hr0 : s₀.rooms = s.rooms := by rcases hc.state with rfl | rfl <;> rfl
  rw [step_of_completesEvent hc]
  exact handleEvent_not_connected cfg id (by rw [hr0]; exact hs) (first := ev) (rest := args) rfl

example : sidOf demo0.rooms ['/', 'x'] tA = none := by decide +kernel

/-! ### `ack_exact` -/

/-- The `send` outputs of that step are exactly one ACK with the event's id, on its namespace, to
    the sending transport, carrying the packed return value — when the event had an id and a
    handler (or a class-based namespace) was responsible and returned; nothing otherwise.
    (`t ∈ s.socks`: engine.io delivers messages of open sockets only.) -/
theorem ack_exact {s s₀ : Srv} (h : Server.WF s) {t : Eio} {v : J} {nsp : Option Str}
    {id : Option Nat} {ev : J} {args : List J} {sid : Sid} {r : Resolved}
    (hc : CompletesEvent dec s t v nsp id (some (.arr (ev :: args))) s₀)
    (hs : sidOf s.rooms (nsp.getD ['/']) t = some sid) (hsync : cfg.asyncHandlers = false)
    (ht : t ∈ s.socks)
    (hr : resolve cfg.reg (nsp.getD ['/']) ev (.str sid :: args) = .ok r) :
    (step dec cfg s (.frame t v)).2.filter Out.isSend =
      match id, returned cfg.script s₀.nEv r with
      | some i, some d => [.send t (mkOut ACK (nsp.getD ['/']) (some i) d.pack)]
      | _, _ => [] := by
  rw [step_connected_event h hc hs]
  simp only [hsync, Bool.false_eq_true, if_false]
  have hopen : ∀ i d, ackFor s₀ t (nsp.getD ['/']) (some i) d =
      [.send t (mkOut ACK (nsp.getD ['/']) (some i) d.pack)] :=
    fun i d => sendTo_open ((hc.wf h).2.2 ▸ ht) _
  rw [runHandler_eq]
  simp only [evRes, hr, returned]
  cases r <;> cases cfg.script.onEvent s₀.nEv <;> cases id <;> dsimp only <;> (try rw [hopen]) <;> rfl

example : tA ∈ demo0.socks := by decide +kernel

/-- Whatever the event and the state: every packet the step sends goes to the sending transport,
    and every invocation carries the session id that transport has on the namespace. -/
theorem ack_to_sender_only {s s₀ : Srv} {t : Eio} {v : J} {nsp : Option Str} {id : Option Nat}
    {data : Option J} (hc : CompletesEvent dec s t v nsp id data s₀) :
    ∀ o ∈ (step dec cfg s (.frame t v)).2,
      o.confined t (fun a => ∃ sid, sidOf s.rooms (nsp.getD ['/']) t = some sid ∧ carries sid a) := by
  have hr0 : s₀.rooms = s.rooms := by rcases hc.state with rfl | rfl <;> rfl
  rw [step_of_completesEvent hc, ← hr0]
  exact handleEvent_outs cfg s₀ t nsp id data

/-- the ACK is a BINARY_ACK exactly when the returned data contains bytes -/
theorem ack_binary_iff (ns : Ns) (i : Nat) (data : List J) :
    (mkOut ACK ns (some i) data).type = if (J.arr data).isBinary then BINARY_ACK else ACK := by
  unfold mkOut mkPacket
  by_cases hb : (J.arr data).isBinary = true <;> simp [hb, ACK, EVENT]

/-! ### `binary_reassembly` -/

/-- A BINARY_EVENT header from `t` followed by its attachments, nothing else from `t` in between
    (here: contiguous), is the reconstructed event: same final state and outputs as
    `_handle_event` on the reconstructed payload in the original state. -/
theorem binary_reassembly {s : Srv} {t : Eio} {hdr : J} {p : Packet} {k : Nat} {d : Option J}
    (hf : s.binbuf.find? (fun e => e.1 = t) = none) (hd : frameDecode dec hdr = .ok (p, k))
    (hp : p.type = BINARY_EVENT) (atts : List J) (hk : atts.length = k) (hk0 : 0 < k)
    (hrec : reconData ⟨p, k, []⟩ atts = .ok d) :
    run dec cfg s (.frame t hdr :: atts.map (fun a => Input.frame t a)) =
      handleEvent cfg s t p.nsp p.id d := by
  -- after the header, `i` attachments stored, `rest` to come
  have key : ∀ (rest got : List J) (s1 : Srv), got.length + rest.length = k → 0 < rest.length →
      s1.binbuf.find? (fun e => e.1 = t) = some (t, ⟨p, k, got⟩) →
      dropBin s1 t = s → reconData ⟨p, k, []⟩ (got ++ rest) = .ok d →
      run dec cfg s1 (rest.map (fun a => Input.frame t a)) = handleEvent cfg s t p.nsp p.id d := by
    intro rest
    induction rest with
    | nil => intro got s1 _ h0; simp at h0
    | cons a rest ih =>
      intro got s1 hlen _ hfind hdrop hrec'
      rw [List.map_cons, run_cons, step]
      by_cases hlast : rest = []
      · subst hlast
        have h1 : ¬ k ≤ got.length := by simp at hlen; omega
        have h2 : k = (got ++ [a]).length := by simp at hlen ⊢; omega
        rw [handleFrame_last dec cfg hfind h1 h2 (d := d) hrec', if_pos hp, hdrop]
        simp [run_nil]
      · have hpos : 0 < rest.length := List.length_pos_iff.mpr hlast
        have h1 : ¬ k ≤ got.length := by simp at hlen; omega
        have h2 : k ≠ (got ++ [a]).length := by simp at hlen ⊢; omega
        rw [handleFrame_more dec cfg hfind h1 h2]
        simp only [List.nil_append]
        have := ih (got ++ [a]) (storeBin s1 t ⟨p, k, got⟩ a) (by simp at hlen ⊢; omega) hpos
          (find_setBin _ _ _ (by rw [hfind]; rfl))
          (by rw [← hdrop]; simp only [dropBin, storeBin, filter_setBin])
          (by rw [List.append_assoc]; exact hrec')
        rw [this]
  rw [run_cons, step, handleFrame_text dec cfg hf, hd]
  have hdisp : dispatchPacket cfg s t p k = ({ s with binbuf := s.binbuf ++ [(t, ⟨p, k, []⟩)] }, []) := by
    unfold dispatchPacket
    simp [hp, BINARY_EVENT, CONNECT, DISCONNECT, EVENT, ACK]
  dsimp only
  rw [hdisp]
  simp only [List.nil_append]
  have := key atts [] { s with binbuf := s.binbuf ++ [(t, ⟨p, k, []⟩)] } (by simpa using hk)
    (by rw [hk]; exact hk0) (find_push hf _)
    (by simp only [dropBin, filter_push hf]) (by simpa using hrec)
  rw [this]

example : demo0.binbuf.find? (fun e => e.1 = tA) = none ∧
    frameDecode dec0 (.str ['h']) =
      .ok (⟨BINARY_EVENT, none, none, some (.arr [.str ['e', 'v'], placeholder 0])⟩, 1) := by
  constructor <;> rfl
example : (run dec0 cfg0 demo0 [.frame tA (.str ['h']), .frame tA (.bin [1, 2])]).2 =
    [.invoke (.fn nsRoot ['e', 'v']) [.str (sidName 0), .bin [1, 2]]] := by rfl

/-- The reassembly buffer is keyed by transport: a frame from another transport never changes the
    partially received packet of `t` — so other clients' traffic may interleave freely. -/
theorem binbuf_keyed {s : Srv} {t t' : Eio} (hne : t' ≠ t) (v : J) :
    (step dec cfg s (.frame t' v)).1.binbuf.find? (fun e => e.1 = t) =
      s.binbuf.find? (fun e => e.1 = t) := by
  rw [step]
  refine frame_cases (motive := fun r => r.1.binbuf.find? (fun e => e.1 = t) = s.binbuf.find? (fun e => e.1 = t))
    (fun _ => rfl) (fun _ _ _ => find_setBin_ne _ hne _) ?_ ?_
    (fun _ _ => by rw [handleConnect_binbuf]) (fun _ => by rw [handleDisconnect_binbuf])
    (fun _ _ _ => find_push_ne _ hne _)
  · intro _ _ _ _ hc
    rw [handleEvent_binbuf]
    cases hc with
    | text => rfl
    | binary => exact find_filter_ne _ hne
  · intro _ _ _ _ hc
    rw [handleAck_binbuf]
    rcases hc.state with rfl | rfl
    · rfl
    · exact find_filter_ne _ hne

/-! ### `order_inline` -/

/-- The output of a history is the concatenation of the outputs of its inputs, in arrival order;
    with inline handlers (`async_handlers = False`) each event's invocation and ACK are in the
    output of its own frame (`invoke_once`, `ack_exact`), hence one client's events are handled
    in arrival order. -/
theorem order_inline (s : Srv) (is : List Input) :
    (run dec cfg s is).2 = (trace dec cfg s is).flatten := by
  induction is generalizing s with
  | nil => simp [run_nil, trace]
  | cons i is ih => rw [run_cons, trace, List.flatten_cons, ih]

theorem order_inline_append (s : Srv) (is js : List Input) :
    run dec cfg s (is ++ js) =
      ((run dec cfg (run dec cfg s is).1 js).1,
        (run dec cfg s is).2 ++ (run dec cfg (run dec cfg s is).1 js).2) := run_append dec cfg s is js

end Sio.C05
