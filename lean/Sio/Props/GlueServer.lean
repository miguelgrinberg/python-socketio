/-
  Glue (server constants) — the strings the server-core model sends or passes to handlers
  ('Unable to connect', the default of ConnectionRefusedError, engine.io's reason strings at their use
  sites) and the default `call()` timeouts are the ones the source has now
  (`Sio/Generated/Constants.lean`, regenerated by `harness/translate_constants.py`).
-/
import Sio.Model.Server
import Sio.Lemmas.ServerConn
import Sio.Generated.Constants
namespace Sio.GlueServer
open Sio

/-- `'Unable to connect'`: what the server model answers to a CONNECT for a namespace that is not
    served (or on which the transport already has a session) is the string of `server.py`, and
    `async_server.py` has the same. -/
theorem unable_to_connect (cfg : Server.Cfg) (s : Server.Srv) (t : Rooms.Eio) (nsp : Option Str)
    (data : Option J)
    (h : Server.isServed cfg (nsp.getD ['/']) = false ∨
      (Rooms.sidOf s.rooms (nsp.getD ['/']) t).isSome = true) :
    Server.handleConnect cfg s t nsp data =
      (s, Server.sendTo s (some t)
        (Server.pktConnectError (nsp.getD ['/']) (.str Generated.serverUnableToConnect))) ∧
    Generated.asyncServerUnableToConnect = Generated.serverUnableToConnect := by
  have hs : "Unable to connect".toList = Generated.serverUnableToConnect := by decide +kernel
  exact ⟨hs ▸ Server.handleConnect_refused_early cfg s t nsp data h, by decide +kernel⟩

/-- `ConnectionRefusedError(*args).error_args`: keys and default message of `exceptions.py`. -/
theorem refused_error_args (m d : J) (ds : List J) :
    Server.errorArgs [] = .obj [(Generated.refusedMessageKey, .str Generated.refusedDefaultMessage)] ∧
    Server.errorArgs [m] = .obj [(Generated.refusedMessageKey, m)] ∧
    Server.errorArgs [m, d] = .obj [(Generated.refusedMessageKey, m), (Generated.refusedDataKey, d)] ∧
    Server.errorArgs (m :: d :: d :: ds) =
      .obj [(Generated.refusedMessageKey, m), (Generated.refusedDataKey, .arr (d :: d :: ds))] := by
  have h1 : "message".toList = Generated.refusedMessageKey := by decide +kernel
  have h2 : "data".toList = Generated.refusedDataKey := by decide +kernel
  have h3 : "Connection rejected by server".toList = Generated.refusedDefaultMessage := by decide +kernel
  simp only [Server.errorArgs, Server.objOf, List.map_cons, List.map_nil, h1, h2, h3, and_self]

/-- `disconnect()` ends the session with engine.io's `reason.SERVER_DISCONNECT`. -/
theorem server_disconnect_reason (cfg : Server.Cfg) (s : Server.Srv) (sid : Rooms.Sid) (ns : Rooms.Ns) :
    Server.apiDisconnect cfg s sid ns =
      if !Server.isConnected s sid ns then (s, [])
      else ((Server.endSession cfg s sid ns Generated.ServerReason.SERVER_DISCONNECT true).1,
            (Server.endSession cfg s sid ns Generated.ServerReason.SERVER_DISCONNECT true).2.1) := by
  have h : "server disconnect".toList = Generated.ServerReason.SERVER_DISCONNECT := by decide +kernel
  rw [← h]; rfl

/-- a DISCONNECT packet ends the session with engine.io's `reason.CLIENT_DISCONNECT`. -/
theorem client_disconnect_reason (cfg : Server.Cfg) (s : Server.Srv) (t : Rooms.Eio) (p : Packet)
    (natt : Nat) (hp : p.type = DISCONNECT) :
    Server.dispatchPacket cfg s t p natt =
      ((Server.handleDisconnect cfg s t (p.nsp.getD ['/']) Generated.ServerReason.CLIENT_DISCONNECT).1,
       (Server.handleDisconnect cfg s t (p.nsp.getD ['/']) Generated.ServerReason.CLIENT_DISCONNECT).2.1) := by
  have h : "client disconnect".toList = Generated.ServerReason.CLIENT_DISCONNECT := by decide +kernel
  rw [← h]
  exact Server.dispatch_disconnect cfg s t natt hp

/-- `call()` waits 60 s by default on all four classes. -/
theorem call_timeouts :
    Generated.serverCallTimeout = 60 ∧ Generated.asyncServerCallTimeout = Generated.serverCallTimeout ∧
    Generated.clientCallTimeout = Generated.serverCallTimeout ∧
    Generated.asyncClientCallTimeout = Generated.serverCallTimeout := by decide +kernel

end Sio.GlueServer
