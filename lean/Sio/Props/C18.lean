/-
  C18 — admin instrumentation: gated by credentials, read-only means read-only.

  Models: `Sio/Model/Admin.lean` (`pyEq`, `adminConnect`/`admits`, `registered`/`instrumentReg`)
  on top of the server model `Sio/Model/Server.lean` (`resolve`, `step`).  Every theorem is for
  ARBITRARY payloads (any `J`, unbounded depth and width), arbitrary credential dicts / lists /
  predicates (`J → Bool`), arbitrary application registries, server states and mode strings.

  The read-only clause on the instrumented server as a whole, per step and for whole histories:
  `read_only_request_inert`, `read_only_queued_request_inert`, `read_only_history_inert`.

  The third clause of the property (application clients observe the same with and without
  instrumentation): `wrappers_transparent_partial` (and, in read-only / production mode without
  the first half of its `quiet` hypothesis, `wrappers_transparent_read_only[_sync]`), over the model
  `Instrumented.stepWith` (= `Server.step` on the instrumented registry, the admin handlers' API
  calls, the wrappers' reports), tied to admin.py by harness/props/c18.py which runs the model
  next to the real instrumented server (and the real instrumented next to the real plain server).
-/
import Sio.Lemmas.Admin
import Sio.Lemmas.AdminTransparent
namespace Sio.C18
open Sio Sio.Admin Sio.Server
open Sio.Rooms (Ns Sid Eio)

/-- **The gate, outright.**  `admin_connect` lets a client in iff authentication was disabled, or
    the payload equals the credentials dict, or it equals one of the listed credential sets, or
    the predicate holds of it.  (`a` is the value the handler receives.) -/
theorem admits_iff (cfg : AuthCfg) (a : J) :
    admits cfg a = true ↔
      cfg = .disabled ∨
      (∃ d, cfg = .dict d ∧ pyEq a (.obj d) = true) ∨
      (∃ ds, cfg = .list ds ∧ ∃ d ∈ ds, pyEq a d = true) ∨
      (∃ p, cfg = .pred p ∧ p a = true) := by
  cases cfg <;> simp [admits, List.any_eq_true]

/-- The line-by-line transcription of `admin_connect` on the raw `auth=` argument is the gate of
    the classified configuration; it raises exactly when `configure` does. -/
theorem adminConnect_eq (auth : AuthArg) (a : J) :
    adminConnect auth a = (configure auth).map (fun cfg => admits cfg a) := by
  cases auth with
  | val j =>
    simp only [adminConnect, configure]
    cases ht : j.truthy
    · simp [Except.map, admits]
    · cases j <;> simp [Except.map, admits]
  | _ => rfl

/-- `auth=None` never yields an open door: the constructor raises (in every mode). -/
theorem configure_missing : configure .missing = .error .valueError := rfl

/-- Authentication is disabled only by an explicitly passed falsy value. -/
theorem configure_disabled_iff (auth : AuthArg) :
    configure auth = .ok .disabled ↔ ∃ j, auth = .val j ∧ j.truthy = false := by
  cases auth with
  | val j =>
    simp only [configure]
    cases ht : j.truthy
    · simp [ht]
    · cases j <;> simp_all
  | _ => simp [configure]

/-- Equal dicts have the same number of entries and every key of the left is a key of the right:
    a payload with a key missing or a key too many is never equal to the credentials. -/
theorem pyEq_keys {a b : List (Str × J)} (h : pyEq (.obj a) (.obj b) = true) :
    a.length = b.length ∧ ∀ k ∈ keys a, k ∈ keys b := by
  rw [pyEq_obj_obj] at h
  simp only [Bool.and_eq_true, beq_iff_eq] at h
  exact ⟨h.1, pyEqO_keys_subset h.2⟩

/-- … and for a real dict on the left (distinct keys) the key sets coincide. -/
theorem pyEq_keys_iff {a b : List (Str × J)} (nd : (keys a).Nodup)
    (h : pyEq (.obj a) (.obj b) = true) : ∀ k, k ∈ keys a ↔ k ∈ keys b := by
  obtain ⟨hl, hsub⟩ := pyEq_keys h
  intro k
  refine ⟨hsub k, ?_⟩
  exact nodup_subset_surj (keys a) (keys b) nd hsub (by simp [keys, hl]) k

/-- A strict superset of the credentials (one more key, whatever its value) is refused. -/
theorem pyEq_superset_false (d : List (Str × J)) (k : Str) (v : J) (pre post : List (Str × J)) :
    pyEq (.obj (pre ++ (k, v) :: post)) (.obj d) = true → (pre ++ post).length ≠ d.length := by
  intro h
  have := (pyEq_keys h).1
  simp only [List.length_append, List.length_cons] at this ⊢
  omega

/-- A payload that lacks a key of the credentials is refused. -/
theorem pyEq_missing_key_false {a d : List (Str × J)} {k : Str} (nd : (keys a).Nodup)
    (hk : k ∈ keys d) (hna : k ∉ keys a) : pyEq (.obj a) (.obj d) = false :=
  Bool.eq_false_iff.mpr fun h => hna ((pyEq_keys_iff nd h k).mpr hk)

/-- A payload with a key the credentials do not have is refused. -/
theorem pyEq_extra_key_false {a d : List (Str × J)} {k : Str}
    (hk : k ∈ keys a) (hnd : k ∉ keys d) : pyEq (.obj a) (.obj d) = false :=
  Bool.eq_false_iff.mpr fun h => hnd ((pyEq_keys h).2 k hk)

/-- Nothing but a dict equals a dict (absent / `None` / numbers / strings / lists never pass a
    dict credential), in either operand order. -/
theorem pyEq_nondict (a : J) (d : List (Str × J)) :
    (pyEq a (.obj d) = true → ∃ a', a = .obj a') ∧ (pyEq (.obj d) a = true → ∃ a', a = .obj a') :=
  ⟨pyEq_obj_right, pyEq_obj_left⟩

/-- `==` is reflexive on JSON-shaped values (distinct dict keys, no NaN): the right credentials
    are always accepted. -/
theorem pyEq_refl (a : J) (h : Dom a) : pyEq a a = true := Admin.pyEq_refl a h

/-- `==` is symmetric on JSON-shaped values: `client_auth == self.auth` and
    `self.auth == client_auth` (what `in` evaluates) agree. -/
theorem pyEq_symm (a b : J) (ha : Dom a) (hb : Dom b) : pyEq a b = pyEq b a :=
  Admin.pyEq_symm a b ha hb

/-- Key order is irrelevant (a permutation of the credentials is accepted)… -/
example : pyEq (.obj [("username".toList, .str "u".toList), ("password".toList, .str "p".toList)])
    (.obj [("password".toList, .str "p".toList), ("username".toList, .str "u".toList)]) = true := by
  decide
/-- … list order is not, `True == 1 == 1.0`, `"1"` is not `1`, bytes are not text, sub- and
    supersets fail. -/
example : pyEq (.arr [.int 1, .int 2]) (.arr [.int 2, .int 1]) = false := by decide
example : pyEq (.obj [("k".toList, .bool true)]) (.obj [("k".toList, .int 1)]) = true := by decide
example : pyEq (.obj [("k".toList, .flt "1.0".toList)]) (.obj [("k".toList, .int 1)]) = true := by decide
example : pyEq (.obj [("k".toList, .str "1".toList)]) (.obj [("k".toList, .int 1)]) = false := by decide
example : pyEq (.str "ab".toList) (.bin [97, 98]) = false := by decide
example : pyEq (.obj [("u".toList, .int 1)]) (.obj [("u".toList, .int 1), ("p".toList, .int 2)]) = false := by
  decide
example : pyEq (.obj [("u".toList, .int 1), ("p".toList, .int 2), ("x".toList, .null)])
    (.obj [("u".toList, .int 1), ("p".toList, .int 2)]) = false := by decide
example : pyEq (.obj [("u".toList, .obj [("n".toList, .arr [.int 1, .null])])])
    (.obj [("u".toList, .obj [("n".toList, .arr [.bool true, .null])])]) = true := by decide
/-- the hypotheses of `pyEq_refl` / `pyEq_symm` are met by nested values -/
example : Dom (.obj [("u".toList, .arr [.int 1, .flt "1.5".toList]), ("p".toList, .obj [])]) := by
  refine .obj _ (by decide) ?_
  intro p hp
  simp only [List.mem_cons, List.not_mem_nil, or_false] at hp
  rcases hp with rfl | rfl
  · refine .arr _ ?_
    intro x hx
    simp only [List.mem_cons, List.not_mem_nil, or_false] at hx
    rcases hx with rfl | rfl
    · exact .int _
    · exact .flt _ (by decide)
  · exact .obj _ (by decide) (by simp)
/-- `nan` is why reflexivity needs the domain hypothesis -/
example : pyEq (.flt "nan".toList) (.flt "nan".toList) = false := by decide

/-! ### the gate as seen from the wire

`Server._handle_connect` passes the CONNECT payload on only if it is truthy; the handler
receives `None` otherwise.  For credential dicts and lists of credential dicts this is invisible:
acceptance is still "the payload the client presented equals the credentials". -/

theorem pyEq_falsy_obj_false {a : J} {d : List (Str × J)} (hd : d ≠ []) (ha : a.truthy = false) :
    pyEq a (.obj d) = false := by
  refine Bool.eq_false_iff.mpr fun h => ?_
  obtain ⟨a', rfl⟩ := pyEq_obj_right h
  cases a' with
  | nil => exact hd (List.eq_nil_of_length_eq_zero (pyEq_keys h).1.symm)
  | cons _ _ => simp [J.truthy] at ha

theorem admitsWire_dict {d : List (Str × J)} (hd : d ≠ []) (w : Option J) :
    admitsWire (.dict d) w = true ↔ ∃ a, w = some a ∧ pyEq a (.obj d) = true := by
  cases w with
  | none => simp [admitsWire, present, admits, pyEq, scalarEq]
  | some a =>
    simp only [admitsWire, present, admits, Option.some.injEq, exists_eq_left']
    cases ht : a.truthy
    · simp [pyEq, scalarEq, pyEq_falsy_obj_false hd ht]
    · simp

theorem admitsWire_list {ds : List J} (hds : ∀ d ∈ ds, ∃ kv, d = .obj kv ∧ kv ≠ []) (w : Option J) :
    admitsWire (.list ds) w = true ↔ ∃ a, w = some a ∧ ∃ d ∈ ds, pyEq a d = true := by
  have hnull : ∀ a : J, a.truthy = false → ¬ ∃ d ∈ ds, pyEq a d = true := by
    rintro a ha ⟨d, hd, h⟩
    obtain ⟨kv, rfl, hkv⟩ := hds d hd
    rw [pyEq_falsy_obj_false hkv ha] at h; cases h
  cases w with
  | none =>
    simp only [admitsWire, present, admits, List.any_eq_true]
    exact iff_of_false (hnull .null rfl) (by simp)
  | some a =>
    simp only [admitsWire, present, admits, Option.some.injEq, exists_eq_left', List.any_eq_true]
    cases ht : a.truthy
    · simp only [Bool.false_eq_true, if_false]
      exact iff_of_false (hnull .null rfl) (hnull a ht)
    · simp

/-- For a predicate the statement is about what the handler is given. -/
theorem admitsWire_pred (p : J → Bool) (w : Option J) :
    admitsWire (.pred p) w = p (present w) := rfl

/-- the boundary recorded as known finding `C18/falsy-auth-presented-as-None`: the predicate
    `a is None` is false of the payload `0`, which is nevertheless admitted -/
example : Pred.isNull.eval (.int 0) = false ∧ admitsWire (.pred Pred.isNull.eval) (some (.int 0)) = true := by
  decide

theorem mutator_ne_connect {ev : Str} (hev : ev ∈ mutators) : ev ≠ "connect".toList := by
  intro h; subst h; simp [mutators] at hev

/-- **Exactly when the four mutators exist**: `emit`, `join`, `leave`, `_disconnect` have a
    handler on the admin namespace iff the mode is `development` and `read_only` is off.
    (`production` never has them, `read_only` or not.) -/
theorem registry_mutators (mode : Str) (ro : Bool) (ev : Str) (hev : ev ∈ mutators) :
    ev ∈ registered mode ro ↔ (isDev mode = true ∧ ro = false) := by
  have hne : ¬ ev = ['c', 'o', 'n', 'n', 'e', 'c', 't'] := mutator_ne_connect hev
  cases hd : isDev mode <;> cases ro <;> simp [registered, hd, hne, hev]

/-- **read-only registry**: with `read_only` on, or in any mode other than `development`, the only
    handler on the admin namespace is `connect`. -/
theorem read_only_registry (mode : Str) (ro : Bool) (h : ro = true ∨ isDev mode = false) :
    registered mode ro = ["connect".toList] ∧ ∀ ev ∈ mutators, ev ∉ registered mode ro :=
  ⟨registered_ro h, fun _ hev => not_registered_ro h (mutator_ne_connect hev)⟩

/-- non-vacuity: the writable configuration does register them -/
example : registered "development".toList false =
    ["connect".toList, "emit".toList, "join".toList, "leave".toList, "_disconnect".toList] := by decide
example : registered "production".toList false = ["connect".toList] := by decide
example : registered "development".toList true = ["connect".toList] := by decide

/-- **No admin request resolves to a handler** in read-only mode (application without handlers on
    the admin namespace and without catch-all *namespace* handlers, `AppClear`): whatever the
    event is called — `emit`, `join`, `leave`, `_disconnect` or anything but `connect` — and
    whatever its arguments, `_trigger_event` finds nobody (`self.not_handled`). -/
theorem read_only_resolve {app : Registry} {adminNs : Ns} {mode : Str} {ro : Bool}
    (hro : ro = true ∨ isDev mode = false) (hc : AppClear app adminNs) (hns : adminNs ≠ star)
    {ev : Str} (hev : ev ∈ mutators ∨ ev ≠ "connect".toList) (args : List J) :
    resolve (instrumentReg app adminNs mode ro) adminNs (.str ev) args = .ok .notHandled :=
  resolve_unregistered hc hns (not_registered_ro hro (hev.elim mutator_ne_connect id)) args

/-- Without any assumption on the application: the admin namespace itself never contributes a
    mutator — a function handler an admin event resolves to in read-only mode is either
    `connect`'s or one the application registered. -/
theorem read_only_no_mutator_slot {app : Registry} {adminNs : Ns} {mode : Str} {ro : Bool}
    (hro : ro = true ∨ isDev mode = false) (ev : Str) (hev : ev ∈ mutators) :
    (instrumentReg app adminNs mode ro).fn adminNs ev = app.fn adminNs ev := by
  have hne : ¬ ev = ['c', 'o', 'n', 'n', 'e', 'c', 't'] := mutator_ne_connect hev
  simp [instrumentReg, registered_ro hro, hne]

/-- In the writable configuration the same request does resolve to the admin's handler. -/
theorem writable_resolve (app : Registry) {adminNs : Ns} (hadm : adminNs ≠ star) {mode : Str}
    (hd : isDev mode = true)
    {ev : Str} (hev : ev ∈ mutators) (args : List J) :
    resolve (instrumentReg app adminNs mode false) adminNs (.str ev) args =
      .ok (.fn (.fn adminNs ev) args) := by
  have hin : ev ∈ registered mode false := (registry_mutators mode false ev hev).mpr ⟨hd, rfl⟩
  have hstar : ¬ ev = star := by
    intro e; subst e; simp [mutators, star] at hev
  simp [resolve, instrumentReg, hashable, inDict, evStr, hin, hstar, hadm]

section frame
variable {app : Registry} {adminNs : Ns} {mode : Str} {ro : Bool} {cfg : Cfg}

/-- The handler of an admin EVENT other than `connect` (`_handle_event_internal`: run at once or,
    with `async_handlers`, from the queue), in whatever state: nothing. -/
theorem read_only_handler_inert
    (hreg : cfg.reg = instrumentReg app adminNs mode ro)
    (hro : ro = true ∨ isDev mode = false) (hc : AppClear app adminNs) (hns : adminNs ≠ star)
    {ev : Str} (hev : ev ≠ "connect".toList) (s : Srv) (b : Bg) (hb : b.ns = adminNs)
    (hf : b.first = .str ev) : runHandler cfg s b = (s, []) := by
  simp [runHandler, hreg, hb, hf, resolve_unregistered hc hns (not_registered_ro hro hev)]

/-- The event handler proper, for any payload shape (`handleEvent` is also what a completed binary
    packet is given to). -/
theorem read_only_event_inert
    (hreg : cfg.reg = instrumentReg app adminNs mode ro)
    (hro : ro = true ∨ isDev mode = false) (hc : AppClear app adminNs) (hns : adminNs ≠ star)
    {ev : Str} (hev : ev ≠ "connect".toList) (hsync : cfg.asyncHandlers = false)
    (s : Srv) (t : Eio) (id : Option Nat) {data : Option J} {rest : List J}
    (hd : splitEvent data = .ok (.str ev, rest)) :
    handleEvent cfg s t (some adminNs) id data = (s, []) := by
  simp only [handleEvent, hd, Option.getD_some]
  split
  · rfl
  · split
    · rfl
    · simp only [hsync, Bool.false_eq_true, if_false]
      exact read_only_handler_inert hreg hro hc hns hev s _ rfl rfl

/-- **Synchronous handlers.** An EVENT (or reassembled BINARY_EVENT) frame from an admin client
    whose name is one of the mutators — or anything but `connect` — leaves the *entire* server
    state unchanged and produces no output at all: no room membership changes, no packet to any
    client on any namespace, no handler invocation, no disconnect, not even an ACK. -/
theorem read_only_frame_inert (dec : Str → Except Err (Packet × Nat))
    (hreg : cfg.reg = instrumentReg app adminNs mode ro)
    (hro : ro = true ∨ isDev mode = false) (hc : AppClear app adminNs) (hns : adminNs ≠ star)
    {ev : Str} (hev : ev ≠ "connect".toList) (hsync : cfg.asyncHandlers = false)
    (s : Srv) (t : Eio) (c : Char) (cs : Str) {p : Packet} {n : Nat} {rest : List J}
    (hbuf : s.binbuf.find? (fun e => e.1 = t) = none)
    (hdec : dec (c :: cs) = .ok (p, n)) (hty : p.type = EVENT) (hnsp : p.nsp = some adminNs)
    (hd : splitEvent p.data = .ok (.str ev, rest)) :
    step dec cfg s (.frame t (.str (c :: cs))) = (s, []) := by
  rw [step_of_completesEvent (.text (dec := dec) (v := .str (c :: cs)) hbuf hdec hty), hnsp]
  exact read_only_event_inert hreg hro hc hns hev hsync s t p.id hd

/-- **`async_handlers=True`** (the default): the frame queues the handler, `settle` runs it; the
    two steps together leave the state unchanged and produce nothing. -/
theorem read_only_frame_inert_async (dec : Str → Except Err (Packet × Nat))
    (hreg : cfg.reg = instrumentReg app adminNs mode ro)
    (hro : ro = true ∨ isDev mode = false) (hc : AppClear app adminNs) (hns : adminNs ≠ star)
    {ev : Str} (hev : ev ≠ "connect".toList) (hasync : cfg.asyncHandlers = true)
    (s : Srv) (hbg : s.bg = []) (t : Eio) (c : Char) (cs : Str) {p : Packet} {n : Nat}
    {rest : List J}
    (hbuf : s.binbuf.find? (fun e => e.1 = t) = none)
    (hdec : dec (c :: cs) = .ok (p, n)) (hty : p.type = EVENT) (hnsp : p.nsp = some adminNs)
    (hd : splitEvent p.data = .ok (.str ev, rest)) :
    run dec cfg s [.frame t (.str (c :: cs)), .settle] = (s, []) := by
  have hs0 : { s with bg := [] } = s := by cases s; simp_all
  rw [run_cons, run_cons, run_nil, step_of_completesEvent (.text (dec := dec) (v := .str (c :: cs)) hbuf hdec hty), hnsp]
  simp only [handleEvent, hd, Option.getD_some, hasync, if_true]
  -- the frame is dropped (no admin session on this transport), or queues the handler
  split
  · simp only [step, hbg, step.drain, hs0, List.append_nil]
  · split
    · simp only [step, hbg, step.drain, hs0, List.append_nil]
    · simp only [step, hbg, List.nil_append, step.drain, hs0, List.append_nil]
      rw [read_only_handler_inert hreg hro hc hns hev s _ rfl rfl]

/-- **refused ⇒ no membership**: the admin CONNECT of a client whose payload the gate does not
    admit (the connect handler's outcome is `connectOutcome`) leaves the room relation exactly
    as it was (instance of the server model's connect with outcome *refuse*; `hfresh` is the
    trusted freshness of `eio.generate_id()`; `henv`: the transport was opened; `hadm`: the admin
    namespace is not called `*` — a constructor-time fact, `/admin` by default). -/
theorem refused_no_membership (hreg : cfg.reg = instrumentReg app adminNs mode ro)
    (hadm : adminNs ≠ star)
    (s : Srv) (t : Eio) (payload : Option J) (acfg : AuthCfg)
    (hscript : cfg.script.onConnect s.nConn = connectOutcome acfg payload)
    (hrefuse : admitsWire acfg payload = false)
    (henv : s.environ.contains t = true)
    (hfresh : ∀ e ∈ s.rooms, e.sid ≠ sidName s.nextSid) :
    (handleConnect cfg s t (some adminNs) payload).1.rooms = s.rooms ∧
    ∀ o ∈ (handleConnect cfg s t (some adminNs) payload).2,
      (∃ p, o = .send t p) ∨ (∃ a, o = .invoke (.fn adminNs "connect".toList) a) := by
  have hsend : ∀ p, p.nsp = some adminNs →
      (∃ q, Out.send t p = .send t q) ∨ ∃ a, Out.send t p = .invoke (.fn adminNs "connect".toList) a :=
    fun p _ => .inl ⟨p, rfl⟩
  cases hc : (if isServed cfg adminNs then
      Rooms.connect s.rooms adminNs t (sidName s.nextSid) else none) with
  | none =>
    rw [handleConnect_eq]; dsimp only [Option.getD_some]; rw [hc]
    exact ⟨rfl, sendTo_forall hsend s rfl⟩
  | some rooms' =>
    have hconn : Rooms.connect s.rooms adminNs t (sidName s.nextSid) = some rooms' := by
      split at hc
      · exact hc
      · cases hc
    rw [handleConnect_gate hreg hadm payload henv hc, hscript, connectOutcome, hrefuse]
    refine ⟨by cases cfg.alwaysConnect <;> exact connect_disconnect hconn hfresh,
      connectEnd_all hsend _ _ _ (List.forall_mem_append.mpr
        ⟨?_, fun o ho => .inr ⟨_, List.mem_singleton.mp ho⟩⟩) _⟩
    split
    · exact sendTo_forall hsend s rfl
    · exact fun _ h => nomatch h

/-- Contrast (non-vacuity of the above): an admitted attempt does become a member. -/
theorem admitted_membership (hreg : cfg.reg = instrumentReg app adminNs mode ro)
    (hadm : adminNs ≠ star)
    (s : Srv) (t : Eio) (payload : Option J) (acfg : AuthCfg)
    (hscript : cfg.script.onConnect s.nConn = connectOutcome acfg payload)
    (hadmit : admitsWire acfg payload = true)
    (henv : s.environ.contains t = true)
    (hnew : Rooms.sidOf s.rooms adminNs t = none) :
    Rooms.isMember (handleConnect cfg s t (some adminNs) payload).1.rooms adminNs none
      (sidName s.nextSid) = true := by
  have hserved : isServed cfg adminNs = true := by
    simp [isServed, hreg, instrumentReg]
  have hc : (if isServed cfg adminNs then
      Rooms.connect s.rooms adminNs t (sidName s.nextSid) else none) =
      some (Rooms.add (Rooms.add s.rooms ⟨adminNs, none, sidName s.nextSid, t⟩)
        ⟨adminNs, some (sidName s.nextSid), sidName s.nextSid, t⟩) := by
    rw [hserved, if_pos rfl, Rooms.connect, hnew]
  rw [handleConnect_gate hreg hadm payload henv hc, hscript, connectOutcome, hadmit]
  exact Rooms.isMember_iff.mpr ⟨t, Rooms.mem_add.mpr (Or.inl (Rooms.mem_add.mpr (Or.inr rfl)))⟩

end frame

/-- Every report of the instrumentation is a `sio.emit(..., namespace=admin_namespace)` without a
    callback.  In the server model such an emit changes no state and every packet it produces is
    on the admin namespace: filtered by `observeApp`, nothing is left. -/
theorem report_invisible (s : Srv) (ev : Str) (d : Data) (adminNs : Ns) (to : Rooms.Target)
    (skip : List Sid) :
    (emit s ev d adminNs to skip none).1 = s ∧
    observeApp adminNs (emit s ev d adminNs to skip none).2 = [] := by
  refine ⟨emit_nocb_state .., List.filter_eq_nil_iff.mpr fun o ho => ?_⟩
  obtain ⟨t, rfl⟩ := emit_nocb_outs ho
  simp [isAdminOut, mkOut_ns]

/-! ### the instrumented server is transparent (model level)

`Instrumented.stepWith dec c a mode ro rep` is one input on the instrumented server: `Server.step`
on the configuration whose registry is `instrumentReg c.reg a mode ro`, then the API calls of the
admin handlers `emit / join / leave / _disconnect` the step invoked, then the reports `rep` says
the wrappers emit — each `Server.step … (.emit ev d a to [] none)`.  The theorems hold for EVERY
reporting policy `rep` (so also for the one transcribed from admin.py, `reports`, whatever the
abstract payloads are), every decoder, every application registry / script / server options.

What is compared (`observeTrace`, `appState`), input by input: packets of namespaces other than
`a` per transport in order, invocations of handlers of other namespaces with their arguments,
callbacks, results of API calls and the exceptions they raise to the caller; and the state
without the rooms and queued handlers of `a` (all callbacks, ack counters, sessions, environ,
reassembly buffers).  Exceptions *contained* while a frame / a transport loss / a queued handler
is processed are not observations of any client (`contained`).

The reference run is the same configuration with the application's own registry, on the SAME
history (admin frames included: the plain server refuses them), in which the id generator and
the connect / event scripts skip what the admin CONNECTs consumed on the instrumented server
(`Plain.traceSkip`, as C12's `runSkip`; with no skips it is literally `Server.run`,
`traceSkip_zero`).

Hypotheses (why `_partial`):
 * `AppClear`, `a ≠ "*"`, `isServed c a = false`: the application has no handler on the admin
   namespace, no catch-all namespace handlers, and does not serve `a` itself (for
   `namespaces='*'` the plain server would accept admin clients as ordinary ones — excluded);
 * `appInput`: the application's API calls do not address `a`; no blocking `call()` in the
   history (its nested inputs cannot be given skips) — excluded;
 * `Instrumented.quiet` (decidable, evaluated along the instrumented run): no step invokes one of
   the four mutators — they act on the application by design; in read-only / production mode
   this half is a THEOREM (`quiet_of_read_only`; `wrappers_transparent_read_only` and, with
   synchronous handlers, `wrappers_transparent_read_only_sync` do not assume it) — and, when queued handlers
   run (`async_handlers`), no queued *admin* EVENT has a handler: the only such event is one
   literally named `connect` (it would run `admin_connect` as an event handler and thereby
   consume an outcome of the application's event script between two application events; with
   synchronous handlers it is covered).
One transport connected both to application namespaces and to the admin namespace IS covered:
nothing is assumed about which transport sends what. -/

/-- **One input.**  From any well-formed state whose application part is well formed, one input on
    the instrumented server and the same input on the plain server started in the application
    part of that state: same application-side outputs, and the application parts of the
    successor states agree up to the generators' positions. -/
theorem step_transparent (dec : Str → Except Err (Packet × Nat)) (c : Cfg) {a : Ns} (mode : Str)
    (ro : Bool) (rep : Srv → Input → List Out → List Report)
    (hc : AppClear c.reg a) (ha : a ≠ star) (hserved : isServed c a = false)
    {s : Srv} (h : Server.WF s) (h' : Server.WF (appPart a s)) (i : Input)
    (hi : appInput a i = true)
    (hq : Instrumented.quietStep c a mode ro s i
      (Server.step dec (Instrumented.cfg c a mode ro) s i).2 = true) :
    (∃ k, appPart a (Instrumented.stepWith dec c a mode ro rep s i).1 =
      bumpBy k (Server.step dec c (appPart a s) i).1) ∧
    appView a i (Instrumented.stepWith dec c a mode ro rep s i).2 =
      appView a i (Server.step dec c (appPart a s) i).2 :=
  stepWith_sim ha hc hserved h (noAdminCb_of_wf h h') i hi hq

/-- **Histories, whether or not an admin is connected.** -/
theorem wrappers_transparent_partial (dec : Str → Except Err (Packet × Nat)) (c : Cfg) {a : Ns}
    (mode : Str) (ro : Bool) (rep : Srv → Input → List Out → List Report)
    (hc : AppClear c.reg a) (ha : a ≠ star) (hserved : isServed c a = false)
    (hist : List Input) (happ : hist.all (appInput a) = true)
    (hq : Instrumented.quiet dec c a mode ro rep {} hist = true) :
    ∃ skips : List Skip, skips.length = hist.length ∧
      observeTrace a (Instrumented.traceWith dec c a mode ro rep {} hist).2 =
        observeTrace a (Plain.traceSkip dec c {} (skips.zip hist)).2 ∧
      appState a (Instrumented.traceWith dec c a mode ro rep {} hist).1 =
        appState a (Plain.traceSkip dec c {} (skips.zip hist)).1 :=
  trace_sim ha hc hserved hist {} {} ⟨Server.WF.init, Server.WF.init, {}, rfl⟩
    (fun i hi => List.all_eq_true.mp happ i hi) hq

/-- … in particular for the wrappers of admin.py (`reports`), whatever timestamps, serialised
    sockets and statistics they carry, and for the outputs of the whole run in one list. -/
theorem wrappers_transparent_partial_run (dec : Str → Except Err (Packet × Nat)) (c : Cfg) {a : Ns}
    (mode : Str) (ro : Bool) (P : Payloads)
    (hc : AppClear c.reg a) (ha : a ≠ star) (hserved : isServed c a = false)
    (hist : List Input) (happ : hist.all (appInput a) = true)
    (hq : Instrumented.quiet dec c a mode ro
      (reports dec (Instrumented.cfg c a mode ro) a mode P) {} hist = true) :
    ∃ skips : List Skip, skips.length = hist.length ∧
      (observeTrace a (Instrumented.trace dec c a mode ro P {} hist).2).flatMap (·.2) =
        (observeTrace a (Plain.traceSkip dec c {} (skips.zip hist)).2).flatMap (·.2) ∧
      appState a (Instrumented.run dec c a mode ro P {} hist).1 =
        appState a (Plain.runSkip dec c {} (skips.zip hist)).1 := by
  obtain ⟨skips, hl, h1, h2⟩ := wrappers_transparent_partial dec c mode ro
    (reports dec (Instrumented.cfg c a mode ro) a mode P) hc ha hserved hist happ hq
  exact ⟨skips, hl, congrArg (fun l => l.flatMap (·.2)) h1, h2⟩

/-- without skips the reference run is the server model's `run` -/
theorem traceSkip_zero (dec : Str → Except Err (Packet × Nat)) (c : Cfg) (s : Srv) (hist : List Input) :
    Plain.runSkip dec c s (hist.map (fun i => (({} : Skip), i))) = Server.run dec c s hist := by
  induction hist generalizing s with
  | nil => rw [run_nil]; rfl
  | cons i is ih =>
    have := ih (Server.step dec c s i).1
    simp only [Plain.runSkip] at this ⊢
    rw [run_cons, List.map_cons, Plain.traceSkip]
    simp only [List.flatMap_cons]
    rw [← this]
    rfl

/-- In read-only / non-development mode no event resolves to one of the four mutators, on any
    namespace, whatever its name and arguments (so the first half of `quiet` holds by
    construction there). -/
theorem ro_resolve_no_mutator {app : Registry} {a : Ns} {mode : Str} {ro : Bool}
    (hro : ro = true ∨ isDev mode = false) (hc : AppClear app a) (ha : a ≠ star)
    {ns : Ns} {ev : J} {args : List J} {r : Resolved}
    (h : resolve (instrumentReg app a mode ro) ns ev args = .ok r) :
    ∀ slot args', (r = .fn slot args' ∨ r = .clsCall slot args') →
      mutatorCalled a (.invoke slot args') = false :=
  Admin.ro_resolve_no_mutator hro hc ha h

/-! ### read-only / production mode: `quiet`'s first half is a theorem

`Instrumented.quiet` is the conjunction of `Instrumented.noMutator` (no step of the history invokes
`emit / join / leave / _disconnect`) and `Instrumented.settleQuiet` (at `settle`, no queued admin
EVENT has a handler) — `quiet_split`.  With `read_only=True`, or in any mode other than
`development`, the first conjunct holds of EVERY history from EVERY state: `ro_resolve_no_mutator`
lifted through `endSession`, `handleConnect`, `runHandler`, `handleEvent`, `handleFrame`,
`handleLost`, `settle`, blocking `call()`s with their nested histories, the admin handlers' API
calls and the reports (`Sio/Lemmas/AdminTransparent.lean`, `step_run_noMut`, `stepWith_noMut`). -/

/-- `quiet` is its two halves -/
theorem quiet_split (dec : Str → Except Err (Packet × Nat)) (c : Cfg) (a : Ns) (mode : Str) (ro : Bool)
    (rep : Srv → Input → List Out → List Report) (s : Srv) (hist : List Input) :
    Instrumented.quiet dec c a mode ro rep s hist =
      (Instrumented.noMutator dec c a mode ro rep s hist &&
        Instrumented.settleQuiet dec c a mode ro rep s hist) :=
  quiet_eq dec c a mode ro rep s hist

/-- **The server core never invokes a mutator in read-only / production mode**: for every decoder,
    every configuration whose registry is `instrumentReg app a mode ro`, every state `s` (reachable
    or not) and every history (any inputs, blocking `call()`s with nested histories included), no
    output of the run is the invocation of `emit / join / leave / _disconnect` of the admin
    namespace. -/
theorem read_only_run_no_mutator (dec : Str → Except Err (Packet × Nat)) {cfg : Cfg} {app : Registry}
    {a : Ns} {mode : Str} {ro : Bool} (hreg : cfg.reg = instrumentReg app a mode ro)
    (hro : ro = true ∨ isDev mode = false) (hc : AppClear app a) (ha : a ≠ star)
    (s : Srv) (hist : List Input) :
    ∀ slot args, Out.invoke slot args ∈ (run dec cfg s hist).2 →
      mutatorCalled a (.invoke slot args) = false := by
  intro slot args hm
  have hR : Unseen (mutatorCalled a) cfg.reg := by rw [hreg]; exact unseen_ro hro hc ha
  exact (step_run_noMut dec hR).2 s hist _ hm

/-- **`quiet`'s first half, proved** (read-only / production mode): from every state, along every
    history and for every reporting policy, no step invokes a mutator
    (`Instrumented.noMutator … = true`); moreover NO output of the instrumented run — of the core,
    of the admin handlers' API calls, of the reports — is the invocation of a mutator; hence
    `quiet` is just its second half. -/
theorem quiet_of_read_only (dec : Str → Except Err (Packet × Nat)) (c : Cfg) {a : Ns} {mode : Str}
    {ro : Bool} (rep : Srv → Input → List Out → List Report)
    (hro : ro = true ∨ isDev mode = false) (hc : AppClear c.reg a) (ha : a ≠ star)
    (s : Srv) (hist : List Input) :
    Instrumented.noMutator dec c a mode ro rep s hist = true ∧
    (∀ x ∈ (Instrumented.traceWith dec c a mode ro rep s hist).2, ∀ slot args,
      Out.invoke slot args ∈ x.2 → mutatorCalled a (.invoke slot args) = false) ∧
    Instrumented.quiet dec c a mode ro rep s hist =
      Instrumented.settleQuiet dec c a mode ro rep s hist :=
  ⟨noMutator_ro hro hc ha hist s,
   fun x hx _ _ hm => traceWith_noMut hro hc ha hist s x hx _ hm,
   quiet_ro hro hc ha s hist⟩

/-- … and with synchronous handlers (`async_handlers=False`) the second half holds too, from any
    state with an empty queue: nothing is ever queued. -/
theorem quiet_of_read_only_sync (dec : Str → Except Err (Packet × Nat)) (c : Cfg) {a : Ns} {mode : Str}
    {ro : Bool} (rep : Srv → Input → List Out → List Report)
    (hro : ro = true ∨ isDev mode = false) (hc : AppClear c.reg a) (ha : a ≠ star)
    (hsync : c.asyncHandlers = false) {s : Srv} (hbg : s.bg = []) (hist : List Input) :
    Instrumented.quiet dec c a mode ro rep s hist = true := by
  rw [quiet_ro hro hc ha s hist]
  exact settleQuiet_sync dec c a mode ro rep hsync hist hbg

/-- **Transparency in read-only / production mode**: `wrappers_transparent_partial` with `quiet`
    replaced by the mode hypothesis and the remaining half of `quiet` — along the run, whenever
    queued handlers are run, no queued admin EVENT has a handler (in this mode: no admin client
    sent an EVENT literally named `connect` under `async_handlers=True`). -/
theorem wrappers_transparent_read_only (dec : Str → Except Err (Packet × Nat)) (c : Cfg) {a : Ns}
    (mode : Str) (ro : Bool) (rep : Srv → Input → List Out → List Report)
    (hro : ro = true ∨ isDev mode = false)
    (hc : AppClear c.reg a) (ha : a ≠ star) (hserved : isServed c a = false)
    (hist : List Input) (happ : hist.all (appInput a) = true)
    (hq : Instrumented.settleQuiet dec c a mode ro rep {} hist = true) :
    ∃ skips : List Skip, skips.length = hist.length ∧
      observeTrace a (Instrumented.traceWith dec c a mode ro rep {} hist).2 =
        observeTrace a (Plain.traceSkip dec c {} (skips.zip hist)).2 ∧
      appState a (Instrumented.traceWith dec c a mode ro rep {} hist).1 =
        appState a (Plain.traceSkip dec c {} (skips.zip hist)).1 :=
  wrappers_transparent_partial dec c mode ro rep hc ha hserved hist happ
    (by rw [quiet_ro hro hc ha {} hist]; exact hq)

theorem wrappers_transparent_read_only_run (dec : Str → Except Err (Packet × Nat)) (c : Cfg) {a : Ns}
    (mode : Str) (ro : Bool) (P : Payloads) (hro : ro = true ∨ isDev mode = false)
    (hc : AppClear c.reg a) (ha : a ≠ star) (hserved : isServed c a = false)
    (hist : List Input) (happ : hist.all (appInput a) = true)
    (hq : Instrumented.settleQuiet dec c a mode ro
      (reports dec (Instrumented.cfg c a mode ro) a mode P) {} hist = true) :
    ∃ skips : List Skip, skips.length = hist.length ∧
      (observeTrace a (Instrumented.trace dec c a mode ro P {} hist).2).flatMap (·.2) =
        (observeTrace a (Plain.traceSkip dec c {} (skips.zip hist)).2).flatMap (·.2) ∧
      appState a (Instrumented.run dec c a mode ro P {} hist).1 =
        appState a (Plain.runSkip dec c {} (skips.zip hist)).1 :=
  wrappers_transparent_partial_run dec c mode ro P hc ha hserved hist happ
    (by rw [quiet_ro hro hc ha {} hist]; exact hq)

/-- **Transparency in read-only / production mode with `async_handlers=False`: no `quiet` left.**
    For every history whose API calls do not address the admin namespace, whatever the admin
    clients send. -/
theorem wrappers_transparent_read_only_sync (dec : Str → Except Err (Packet × Nat)) (c : Cfg) {a : Ns}
    (mode : Str) (ro : Bool) (rep : Srv → Input → List Out → List Report)
    (hro : ro = true ∨ isDev mode = false)
    (hc : AppClear c.reg a) (ha : a ≠ star) (hserved : isServed c a = false)
    (hsync : c.asyncHandlers = false)
    (hist : List Input) (happ : hist.all (appInput a) = true) :
    ∃ skips : List Skip, skips.length = hist.length ∧
      observeTrace a (Instrumented.traceWith dec c a mode ro rep {} hist).2 =
        observeTrace a (Plain.traceSkip dec c {} (skips.zip hist)).2 ∧
      appState a (Instrumented.traceWith dec c a mode ro rep {} hist).1 =
        appState a (Plain.traceSkip dec c {} (skips.zip hist)).1 :=
  wrappers_transparent_partial dec c mode ro rep hc ha hserved hist happ
    (quiet_of_read_only_sync dec c rep hro hc ha hsync rfl hist)

theorem wrappers_transparent_read_only_sync_run (dec : Str → Except Err (Packet × Nat)) (c : Cfg)
    {a : Ns} (mode : Str) (ro : Bool) (P : Payloads) (hro : ro = true ∨ isDev mode = false)
    (hc : AppClear c.reg a) (ha : a ≠ star) (hserved : isServed c a = false)
    (hsync : c.asyncHandlers = false)
    (hist : List Input) (happ : hist.all (appInput a) = true) :
    ∃ skips : List Skip, skips.length = hist.length ∧
      (observeTrace a (Instrumented.trace dec c a mode ro P {} hist).2).flatMap (·.2) =
        (observeTrace a (Plain.traceSkip dec c {} (skips.zip hist)).2).flatMap (·.2) ∧
      appState a (Instrumented.run dec c a mode ro P {} hist).1 =
        appState a (Plain.runSkip dec c {} (skips.zip hist)).1 :=
  wrappers_transparent_partial_run dec c mode ro P hc ha hserved hist happ
    (quiet_of_read_only_sync dec c _ hro hc ha hsync rfl hist)

/-- **No request of an admin client can emit application events, change room membership or
    disconnect clients** — per step, from ANY state (reachable or not), for any reporting policy.
    The input is a frame that delivers an EVENT packet of the admin namespace (`arriving`: a text
    frame, or the last attachment of a BINARY_EVENT), whatever the event is called and whatever
    its arguments are.  After the step of the instrumented server (core, admin handlers' API calls,
    reports):
    * the room relation is unchanged, on every namespace (no membership change, no session gone);
    * every session is connected iff it was;
    * every packet sent is a packet of the admin namespace (no application event, no DISCONNECT
      to an application client);
    * every handler invoked is a handler of the admin namespace and none of the four mutators
      (no application handler, in particular no `disconnect` handler, runs);
    * no callback fires; nothing at all is visible on the application side. -/
theorem read_only_request_inert (dec : Str → Except Err (Packet × Nat)) (c : Cfg) {a : Ns}
    {mode : Str} {ro : Bool} (rep : Srv → Input → List Out → List Report)
    (hro : ro = true ∨ isDev mode = false) (hc : AppClear c.reg a) (ha : a ≠ star)
    (s : Srv) (t : Eio) (v : J) {p : Packet}
    (harr : arriving dec s t v = some p) (hty : p.type = EVENT) (hns : p.nsp.getD ['/'] = a) :
    (Instrumented.stepWith dec c a mode ro rep s (.frame t v)).1.rooms = s.rooms ∧
    (∀ sid ns, isConnected (Instrumented.stepWith dec c a mode ro rep s (.frame t v)).1 sid ns =
      isConnected s sid ns) ∧
    (∀ t' q, Out.send t' q ∈ (Instrumented.stepWith dec c a mode ro rep s (.frame t v)).2 →
      q.nsp = some a) ∧
    (∀ slot args, Out.invoke slot args ∈ (Instrumented.stepWith dec c a mode ro rep s (.frame t v)).2 →
      slotNs slot = a ∧ mutatorCalled a (.invoke slot args) = false) ∧
    (∀ n args, Out.callback n args ∉ (Instrumented.stepWith dec c a mode ro rep s (.frame t v)).2) ∧
    appView a (.frame t v) (Instrumented.stepWith dec c a mode ro rep s (.frame t v)).2 = [] := by
  obtain ⟨hr, hp, hh, hn⟩ := stepWith_adminEvent_ro hro hc ha s t v harr hty hns
  refine ⟨hr, ?_, ?_, ?_, ?_, ?_⟩
  · intro sid ns; simp only [isConnected, hr, hp]
  · intro t' q hm
    simpa [appVisible] using hh _ hm
  · intro slot args hm
    exact ⟨by simpa [appVisible] using hh _ hm, hn _ hm⟩
  · intro n args hm
    have := hh _ hm
    simp [appVisible] at this
  · rw [appView, List.filter_eq_nil_iff]
    intro o ho
    simp [contained, hh o ho]

/-- **… nor when the request runs later** (`async_handlers=True`: the frame above only queued it):
    the queued handler of an admin EVENT, run in whatever state, moves nothing but the position
    of the event script (an event literally named `connect` runs `admin_connect`); rooms,
    sessions, callbacks are untouched; every output is an admin-namespace packet, an invocation of
    an admin-namespace handler that is not a mutator, or a contained exception. -/
theorem read_only_queued_request_inert (c : Cfg) {a : Ns} {mode : Str} {ro : Bool}
    (hro : ro = true ∨ isDev mode = false) (hc : AppClear c.reg a) (ha : a ≠ star)
    (s : Srv) (b : Bg) (hb : b.ns = a) :
    (∃ k, (runHandler (Instrumented.cfg c a mode ro) s b).1 = { s with nEv := s.nEv + k }) ∧
    (∀ t' q, Out.send t' q ∈ (runHandler (Instrumented.cfg c a mode ro) s b).2 → q.nsp = some a) ∧
    (∀ slot args, Out.invoke slot args ∈ (runHandler (Instrumented.cfg c a mode ro) s b).2 →
      slotNs slot = a ∧ mutatorCalled a (.invoke slot args) = false) ∧
    (∀ n args, Out.callback n args ∉ (runHandler (Instrumented.cfg c a mode ro) s b).2) := by
  obtain ⟨hk, hh, hn⟩ := runHandler_admin_ro hro hc ha s b hb
  refine ⟨hk, ?_, ?_, ?_⟩
  · intro t' q hm
    simpa [appVisible] using hh _ hm
  · intro slot args hm
    exact ⟨by simpa [appVisible] using hh _ hm, hn _ hm⟩
  · intro n args hm
    have := hh _ hm
    simp [appVisible] at this

/-- **Whole histories: the admin clients' requests might as well not have been sent.**
    In read-only / production mode, for every history whose API calls do not address the admin
    namespace (admin transports contribute frames — any frames, any payloads — and losses), the
    application side observes on the instrumented server exactly the outputs, in the same order,
    and ends in the same application state as on the PLAIN server (the application's own registry)
    run on the history from which every EVENT frame of the admin namespace has been removed
    (`Instrumented.withoutAdminEvents`: text frames, i.e. sent while no binary packet of that
    transport is being reassembled, that decode to an EVENT packet on `a`) — up to the positions
    of the id generator and of the scripts (`skips`, as in `wrappers_transparent_partial`).
    Remaining hypothesis: `settleQuiet` (see `wrappers_transparent_read_only`). -/
theorem read_only_history_inert (dec : Str → Except Err (Packet × Nat)) (c : Cfg) {a : Ns}
    (mode : Str) (ro : Bool) (rep : Srv → Input → List Out → List Report)
    (hro : ro = true ∨ isDev mode = false)
    (hc : AppClear c.reg a) (ha : a ≠ star) (hserved : isServed c a = false)
    (hist : List Input) (happ : hist.all (appInput a) = true)
    (hq : Instrumented.settleQuiet dec c a mode ro rep {} hist = true) :
    ∃ skips : List Skip,
      skips.length = (Instrumented.withoutAdminEvents dec c a mode ro rep {} hist).length ∧
      (observeTrace a (Instrumented.traceWith dec c a mode ro rep {} hist).2).flatMap (·.2) =
        (observeTrace a (Plain.traceSkip dec c {}
          (skips.zip (Instrumented.withoutAdminEvents dec c a mode ro rep {} hist))).2).flatMap (·.2) ∧
      appState a (Instrumented.traceWith dec c a mode ro rep {} hist).1 =
        appState a (Plain.traceSkip dec c {}
          (skips.zip (Instrumented.withoutAdminEvents dec c a mode ro rep {} hist))).1 :=
  pruned_sim ha hc hserved hist {} {} ⟨Server.WF.init, Server.WF.init, {}, rfl⟩
    (fun i hi => List.all_eq_true.mp happ i hi)
    (by rw [quiet_ro hro hc ha {} hist]; exact hq)

/-- … with `async_handlers=False`: for every such history, no further hypothesis. -/
theorem read_only_history_inert_sync (dec : Str → Except Err (Packet × Nat)) (c : Cfg) {a : Ns}
    (mode : Str) (ro : Bool) (rep : Srv → Input → List Out → List Report)
    (hro : ro = true ∨ isDev mode = false)
    (hc : AppClear c.reg a) (ha : a ≠ star) (hserved : isServed c a = false)
    (hsync : c.asyncHandlers = false)
    (hist : List Input) (happ : hist.all (appInput a) = true) :
    ∃ skips : List Skip,
      skips.length = (Instrumented.withoutAdminEvents dec c a mode ro rep {} hist).length ∧
      (observeTrace a (Instrumented.traceWith dec c a mode ro rep {} hist).2).flatMap (·.2) =
        (observeTrace a (Plain.traceSkip dec c {}
          (skips.zip (Instrumented.withoutAdminEvents dec c a mode ro rep {} hist))).2).flatMap (·.2) ∧
      appState a (Instrumented.traceWith dec c a mode ro rep {} hist).1 =
        appState a (Plain.traceSkip dec c {}
          (skips.zip (Instrumented.withoutAdminEvents dec c a mode ro rep {} hist))).1 :=
  read_only_history_inert dec c mode ro rep hro hc ha hserved hist happ
    (settleQuiet_sync dec c a mode ro rep hsync hist rfl)

def exApp : Registry :=
  { fn := fun ns ev => ns == ['/'] && ev == "msg".toList,
    fnNs := fun ns => ns == ['/'],
    cls := fun _ => false, clsMethod := fun _ _ => false }

def exAdminNs : Ns := "/admin".toList

theorem exApp_clear : AppClear exApp exAdminNs :=
  ⟨by decide, by intro e; simp [exApp, exAdminNs], by decide, by decide, by decide⟩

def exCreds : List (Str × J) := [("username".toList, .str "u".toList), ("password".toList, .str "p".toList)]

/-- read-only development server; the connect handler is the gate for `exCreds`, fed with a
    superset payload -/
def exCfg (payload : Option J) : Cfg :=
  { alwaysConnect := false, served := some [['/']], asyncHandlers := false,
    reg := instrumentReg exApp exAdminNs "development".toList true,
    script := ⟨fun _ => connectOutcome (.dict exCreds) payload, fun _ => .ret .none, fun _ => .ok⟩ }

def exSuperset : J := .obj (exCreds ++ [("admin".toList, .bool true)])

/-- a server with one application client in room `r1` and one open, not yet connected transport -/
def exSrv : Srv :=
  { rooms := [⟨['/'], none, "s0".toList, "T1".toList⟩, ⟨['/'], some "s0".toList, "s0".toList, "T1".toList⟩,
              ⟨['/'], some "r1".toList, "s0".toList, "T1".toList⟩],
    environ := ["T1".toList, "A".toList], socks := ["T1".toList, "A".toList], nextSid := 1 }

/-- the hypotheses of `refused_no_membership` hold here, and the conclusion is not about an
    empty relation -/
example : admitsWire (.dict exCreds) (some exSuperset) = false ∧
    exSrv.environ.contains "A".toList = true ∧
    (∀ e ∈ exSrv.rooms, e.sid ≠ sidName exSrv.nextSid) ∧
    (handleConnect (exCfg (some exSuperset)) exSrv "A".toList (some exAdminNs) (some exSuperset)).1.rooms
      = exSrv.rooms ∧ exSrv.rooms.length = 3 := by
  refine ⟨by decide, by decide, by decide, ?_, rfl⟩
  exact (refused_no_membership (app := exApp) (mode := "development".toList) (ro := true) rfl (by decide)
    exSrv "A".toList (some exSuperset) (.dict exCreds) rfl (by decide) (by decide) (by decide)).1

/-- the right credentials (keys permuted) are admitted -/
example : admitsWire (.dict exCreds)
    (some (.obj [("password".toList, .str "p".toList), ("username".toList, .str "u".toList)])) = true := by
  decide

/-- read-only: an admin `_disconnect` / `emit` / `join` / `leave` resolves to nobody … -/
example : resolve (exCfg none).reg exAdminNs (.str "_disconnect".toList)
    [.str "a0".toList, .str ['/'], .bool false] = .ok .notHandled :=
  read_only_resolve (Or.inl rfl) exApp_clear (by decide) (Or.inl (by decide)) _

/-- … whereas on the writable server it resolves to the admin's handler. -/
example : resolve (instrumentReg exApp exAdminNs "development".toList false) exAdminNs
    (.str "_disconnect".toList) [.str "a0".toList] =
    .ok (.fn (.fn exAdminNs "_disconnect".toList) [.str "a0".toList]) :=
  writable_resolve exApp (adminNs := exAdminNs) (by decide) (by decide) (by decide) _

/-- toy decoder: `c` CONNECT to `/`, `a` CONNECT to `/admin`, `e` EVENT `msg` on `/` (ack id 1),
    `x` EVENT `_disconnect` on `/admin`, `q` EVENT `connect` on `/admin`, `d` DISCONNECT `/admin` -/
def exDec : Str → Except Err (Packet × Nat)
  | ['c'] => .ok (⟨CONNECT, none, none, none⟩, 0)
  | ['a'] => .ok (⟨CONNECT, some exAdminNs, none, none⟩, 0)
  | ['e'] => .ok (⟨EVENT, none, some 1, some (.arr [.str "msg".toList, .int 1])⟩, 0)
  | ['x'] => .ok (⟨EVENT, some exAdminNs, none,
      some (.arr [.str "_disconnect".toList, .str ['/'], .bool false])⟩, 0)
  | ['q'] => .ok (⟨EVENT, some exAdminNs, none, some (.arr [.str "connect".toList])⟩, 0)
  | ['d'] => .ok (⟨DISCONNECT, some exAdminNs, none, none⟩, 0)
  | _ => .error .valueError

/-- the application's own configuration: one handler `msg` on `/`, only `/` served -/
def exPlain : Cfg :=
  { alwaysConnect := false, served := some [['/']], asyncHandlers := false, reg := exApp,
    script := ⟨fun _ => .accept, fun n => .ret (.one (.int n)), fun _ => .ok⟩ }

def exPayloads : Payloads :=
  { stamp := .str "t".toList, socket := fun sid ns => .arr [.str sid, .str ns], features := .null,
    stats := fun _ i => match i with | .settle => some .null | _ => none }

/-- one admin (transport `A`, which is ALSO an application client on `/`), two application-only
    clients `T1`, `T2`; the admin sends a mutator request (read-only: nobody's) and an event
    named `connect`, leaves and the others go on -/
def exHist : List Input :=
  [.eioConnect ['A'], .eioConnect ['1'], .eioConnect ['2'],
   .frame ['A'] (.str ['a']), .frame ['1'] (.str ['c']), .frame ['2'] (.str ['c']),
   .frame ['A'] (.str ['c']),
   .frame ['1'] (.str ['e']), .emit "news".toList (.one (.int 7)) ['/'] .all [] (some 3),
   .frame ['A'] (.str ['x']), .frame ['A'] (.str ['q']),
   .enterRoom (sidName 1) ['/'] ['r'], .frame ['A'] (.str ['d']), .frame ['2'] (.str ['e']),
   .settle, .eioLost ['A'] "transport close".toList, .frame ['2'] (.str ['e'])]

def exRep := reports exDec (Instrumented.cfg exPlain exAdminNs "development".toList true) exAdminNs
  "development".toList exPayloads

/-- the hypotheses of `wrappers_transparent_partial` hold of this history … -/
example : AppClear exPlain.reg exAdminNs ∧ exAdminNs ≠ star ∧ isServed exPlain exAdminNs = false ∧
    exHist.all (appInput exAdminNs) = true ∧
    Instrumented.quiet exDec exPlain exAdminNs "development".toList true exRep {} exHist = true :=
  ⟨exApp_clear, by decide +kernel, by decide +kernel, by decide +kernel, by decide +kernel⟩

/-- … and its conclusion is about something: 32 outputs on the instrumented server, 12 of them
    visible on the application side (CONNECT ×3, `msg` handler ×3 with its ACKs, the `news` EVENT
    to three clients) — the same 12 the plain server produces when its generators skip the
    session id and the `admin_connect` outcome the admin CONNECT consumed, and the outcome the
    admin's event named `connect` consumed. -/
def exSkips : List Skip :=
  [{}, {}, {}, {}, ⟨1, 1, 0⟩, {}, {}, {}, {}, {}, {}, ⟨0, 0, 1⟩, {}, {}, {}, {}, {}]

/-- an output, rendered (only to compare two concrete runs by `decide`) -/
def exKey : Out → Str × Nat × Str × Option Nat × Str
  | .send t p => (t, p.type, p.nsp.getD [], p.id, (p.data.map J.dumps).getD [])
  | .invoke slot args => (slotNs slot, 100, [], none, J.dumps (.arr args))
  | .callback n args => ([], 101, [], some n, J.dumps (.arr args))
  | .raised _ => ([], 102, [], none, [])
  | .result j => ([], 103, [], none, J.dumps j)
  | .timeout => ([], 104, [], none, [])

example :
    let tr := Instrumented.trace exDec exPlain exAdminNs "development".toList true exPayloads {} exHist
    let pl := Plain.traceSkip exDec exPlain {} (exSkips.zip exHist)
    (tr.2.flatMap (·.2)).length = 32 ∧
    ((observeTrace exAdminNs tr.2).flatMap (·.2)).length = 12 ∧
    ((observeTrace exAdminNs tr.2).flatMap (·.2)).map exKey =
      ((observeTrace exAdminNs pl.2).flatMap (·.2)).map exKey ∧
    (appState exAdminNs tr.1).rooms = (appState exAdminNs pl.1).rooms ∧
    (appState exAdminNs tr.1).rooms.length = 5 ∧
    (appState exAdminNs tr.1).cbs = (appState exAdminNs pl.1).cbs ∧
    (appState exAdminNs tr.1).cbs.length = 2 := by
  decide +kernel

def exDev : Str := "development".toList

/-- the reports of the same server with `read_only=False` -/
def exRepW := reports exDec (Instrumented.cfg exPlain exAdminNs exDev false) exAdminNs exDev exPayloads

def exIsInvoke : Out → Bool
  | .invoke _ _ => true
  | _ => false

/-- `quiet_of_read_only` / `read_only_run_no_mutator`: the hypotheses hold of the example server,
    the run does invoke handlers (five times: `admin_connect` as connect handler and as handler of
    the EVENT named `connect`, `msg` three times) — and on the WRITABLE server the same history
    does invoke a mutator (the admin's `_disconnect` request), so the first half of `quiet` is
    not a tautology of the model. -/
example : (true = true ∨ isDev exDev = false) ∧ AppClear exPlain.reg exAdminNs ∧ exAdminNs ≠ star ∧
    ((Instrumented.traceWith exDec exPlain exAdminNs exDev true exRep {} exHist).2.flatMap
      (·.2)).countP exIsInvoke = 5 ∧
    Instrumented.noMutator exDec exPlain exAdminNs exDev true exRep {} exHist = true ∧
    Instrumented.noMutator exDec exPlain exAdminNs exDev false exRepW {} exHist = false :=
  ⟨Or.inl rfl, exApp_clear, by decide +kernel, by decide +kernel, by decide +kernel, by decide +kernel⟩

/-- `wrappers_transparent_read_only_sync` / `read_only_history_inert_sync`: the example server has
    synchronous handlers (the conclusion for this history is the comparison above) -/
example : exPlain.asyncHandlers = false ∧ isServed exPlain exAdminNs = false ∧
    exHist.all (appInput exAdminNs) = true := ⟨rfl, by decide +kernel, by decide +kernel⟩

/-- the same application with `async_handlers=True` -/
def exPlainA : Cfg := { exPlain with asyncHandlers := true }

def exRepA := reports exDec (Instrumented.cfg exPlainA exAdminNs exDev true) exAdminNs exDev exPayloads

/-- the history without the admin's EVENT named `connect` (16 inputs; the `_disconnect` request
    stays) -/
def exHistA : List Input := exHist.take 10 ++ exHist.drop 11

/-- `wrappers_transparent_read_only` (asynchronous handlers): the remaining half of `quiet` holds
    of `exHistA` — and it is exactly the admin's EVENT named `connect` that it excludes: with that
    frame (`exHist`) it fails. -/
example : AppClear exPlainA.reg exAdminNs ∧ isServed exPlainA exAdminNs = false ∧
    exHistA.length = 16 ∧ exHistA.all (appInput exAdminNs) = true ∧
    Instrumented.settleQuiet exDec exPlainA exAdminNs exDev true exRepA {} exHistA = true ∧
    Instrumented.settleQuiet exDec exPlainA exAdminNs exDev true exRepA {} exHist = false :=
  ⟨exApp_clear, by decide +kernel, by decide +kernel, by decide +kernel, by decide +kernel, by decide +kernel⟩

/-- … and its conclusion is about something: the queued `msg` handlers run at `settle` (and the
    last one never), the plain server skips what the admin CONNECT consumed -/
def exSkipsA : List Skip :=
  [{}, {}, {}, {}, ⟨1, 1, 0⟩, {}, {}, {}, {}, {}, {}, {}, {}, {}, {}, {}]

example :
    let tr := Instrumented.traceWith exDec exPlainA exAdminNs exDev true exRepA {} exHistA
    let pl := Plain.traceSkip exDec exPlainA {} (exSkipsA.zip exHistA)
    ((observeTrace exAdminNs tr.2).flatMap (·.2)).length = 10 ∧
    ((observeTrace exAdminNs tr.2).flatMap (·.2)).map exKey =
      ((observeTrace exAdminNs pl.2).flatMap (·.2)).map exKey ∧
    (appState exAdminNs tr.1).rooms = (appState exAdminNs pl.1).rooms ∧
    (appState exAdminNs tr.1).bg.length = 1 ∧ (appState exAdminNs pl.1).bg.length = 1 := by
  decide +kernel

/-- the state in which the admin's `_disconnect` request arrives (after nine inputs), on the
    read-only and on the writable server -/
def exS9 : Srv := (Instrumented.traceWith exDec exPlain exAdminNs exDev true exRep {} (exHist.take 9)).1
def exS9W : Srv := (Instrumented.traceWith exDec exPlain exAdminNs exDev false exRepW {} (exHist.take 9)).1

/-- `read_only_request_inert`: its hypotheses hold of that frame in that state (8 entries in the
    room relation, 5 of them of application sessions) and the step leaves them alone, its one
    output being a report to the admin — whereas on the writable server the same request, in the
    corresponding state, removes all three application sessions (6 entries) and the application
    side sees it (3 DISCONNECT packets). -/
example :
    (∃ p, arriving exDec exS9 ['A'] (.str ['x']) = some p ∧ p.type = EVENT ∧
      p.nsp.getD ['/'] = exAdminNs) ∧
    exS9.rooms.length = 8 ∧ exS9W.rooms = exS9.rooms ∧
    (Instrumented.stepWith exDec exPlain exAdminNs exDev true exRep exS9
      (.frame ['A'] (.str ['x']))).1.rooms = exS9.rooms ∧
    (Instrumented.stepWith exDec exPlain exAdminNs exDev true exRep exS9
      (.frame ['A'] (.str ['x']))).2.length = 1 ∧
    (Instrumented.stepWith exDec exPlain exAdminNs exDev false exRepW exS9W
      (.frame ['A'] (.str ['x']))).1.rooms.length = 2 ∧
    (appView exAdminNs (.frame ['A'] (.str ['x']))
      (Instrumented.stepWith exDec exPlain exAdminNs exDev false exRepW exS9W
        (.frame ['A'] (.str ['x']))).2).length = 3 := by
  refine ⟨?_, by decide +kernel⟩
  obtain ⟨t, v, p, hi, _, h1, h2, h3⟩ :=
    adminEventInput_inv (dec := exDec) (a := exAdminNs) (s := exS9) (i := .frame ['A'] (.str ['x']))
      (by decide +kernel)
  cases hi
  exact ⟨p, h1, h2, h3⟩

/-- `read_only_queued_request_inert`: a queued admin EVENT named `connect` with an ack id does run
    `admin_connect` and is acknowledged — to the admin — and the event script moves by one -/
example :
    let b : Bg := ⟨"s0".toList, ['A'], .str "connect".toList, [], exAdminNs, some 4⟩
    let r := runHandler (Instrumented.cfg exPlainA exAdminNs exDev true) { socks := [['A']] } b
    b.ns = exAdminNs ∧ r.1.nEv = 1 ∧ r.2.map exKey =
      [(exAdminNs, 100, [], none, "[\"s0\"]".toList),
       (['A'], ACK, exAdminNs, some 4, "[0]".toList)] := by
  decide +kernel

/-- `read_only_history_inert`: of the 17 inputs, the admin's two requests are removed; the plain
    server, run on the remaining 15 (skipping what the admin CONNECT and — on the instrumented
    server — the admin's event named `connect` consumed), shows the application side the same 12
    outputs and ends in the same application state. -/
def exSkipsP : List Skip :=
  [{}, {}, {}, {}, ⟨1, 1, 0⟩, {}, {}, {}, {}, ⟨0, 0, 1⟩, {}, {}, {}, {}, {}]

example :
    let tr := Instrumented.traceWith exDec exPlain exAdminNs exDev true exRep {} exHist
    let h' := Instrumented.withoutAdminEvents exDec exPlain exAdminNs exDev true exRep {} exHist
    let pl := Plain.traceSkip exDec exPlain {} (exSkipsP.zip h')
    Instrumented.settleQuiet exDec exPlain exAdminNs exDev true exRep {} exHist = true ∧
    h'.length = 15 ∧
    ((observeTrace exAdminNs tr.2).flatMap (·.2)).length = 12 ∧
    ((observeTrace exAdminNs tr.2).flatMap (·.2)).map exKey =
      ((observeTrace exAdminNs pl.2).flatMap (·.2)).map exKey ∧
    (appState exAdminNs tr.1).rooms = (appState exAdminNs pl.1).rooms ∧
    (appState exAdminNs tr.1).cbs = (appState exAdminNs pl.1).cbs := by
  decide +kernel

end Sio.C18
