/-
  C19 — SimpleClient / AsyncSimpleClient: events are received once each, in arrival order.

  Every theorem quantifies over ALL schedules (`sched : List Choice`, any length): which thread
  makes its next access to `input_buffer` / `input_event` / `connected_event` / `connected`, when a
  timed wait expires, when the application starts its next call (Sio/Model/Simple.lean).
  `run init sched` is the thread variant, `Async.run init sched` the asyncio variant (whose steps are
  blocks of thread steps: `async_schedule_is_thread_schedule`).

  A log entry `(o, v)` is a finished call: `o` its outcome, `v` the snapshot of the state in which it
  finished (`log_is_snapshot`).
-/
import Sio.Lemmas.Simple
import Sio.Lemmas.SimpleAsync
namespace Sio.C19
open Sio.Simple

/-! ## the log records the state in which a call finished -/

theorem log_is_snapshot (s : State) (c : Choice) :
    (step s c).log = s.log ∨ ∃ o, (step s c).log = s.log ++ [(o, view s)] := by
  cases c with
  | prod | conn k => exact .inl (env_step rfl s).2.1
  | cons ok => exact (consStep_frame s ok).2.2.1
  | timeout =>
    simp only [step, timeoutStep]; split
    · exact .inr ⟨_, rfl⟩
    · exact .inl rfl
  | start op =>
    simp only [step, startStep]; split
    · cases op <;> exact .inl rfl
    · exact .inl rfl

/-! ## once each, in arrival order -/

/-- No loss, no duplicate, no overtaking: at every step of every schedule the arrivals are exactly
    the events already returned followed by the events still in the buffer. -/
theorem conservation (sched : List Choice) :
    (run init sched).arrived = (run init sched).returned ++ (run init sched).buf :=
  (inv_reach sched).conserve

/-- `returned ⊑ arrived`. -/
theorem fifo_once (sched : List Choice) :
    (run init sched).returned <+: (run init sched).arrived :=
  ⟨_, (conservation sched).symm⟩

/-- arrivals are pairwise distinct (the n-th append carries n), so a prefix has no repetition. -/
theorem arrivals_distinct (sched : List Choice) : (run init sched).arrived.Nodup := by
  rw [(inv_reach sched).ids]; exact List.nodup_range

theorem returned_distinct (sched : List Choice) : (run init sched).returned.Nodup := by
  have h := arrivals_distinct sched
  rw [conservation sched] at h
  exact (List.nodup_append.mp h).1

/-- the k-th value returned is the k-th arrival, and it was the head of the buffer. -/
theorem returns_kth_arrival (sched : List Choice) (x : Nat) (v : View)
    (h : (Outcome.returned x, v) ∈ (run init sched).log) :
    x = v.returnedN ∧ v.buf.head? = some x := by
  have ⟨_, h1, h2⟩ := (inv_reach sched).logOK _ h
  exact ⟨h2, h1⟩

/-- non-vacuity: two arrivals, two receives, the second arrival lands while the first receive is parked. -/
example : ((run init [.conn .connect, .conn .connect, .start (.recv false), .cons true, .cons true,
    .cons true, .cons true, .prod, .prod, .prod, .cons true, .cons true, .cons true, .cons true, .prod,
    .start (.recv true), .cons true, .cons true]).log.map Prod.fst) = [.returned 0, .returned 1] := by decide

/-- `pop(0)` never meets an empty buffer. -/
theorem no_index_error (sched : List Choice) (v : View) :
    (Outcome.indexErr, v) ∉ (run init sched).log :=
  (inv_reach sched).logOK _

/-! ## no lost wake-up -/

/-- Indexed by the consumer's pc: parked in `input_event.wait` (r3w) or about to call it (r3) with
    a non-empty buffer, the consumer has been notified / the flag is set, or the producer is between
    `append` and `set`. -/
theorem no_lost_wakeup (sched : List Choice) :
    let s := run init sched
    (s.cpc = .r3w → s.buf ≠ [] → s.woken = true ∨ s.ppc = .appended) ∧
    (s.cpc = .r3 → s.buf ≠ [] → s.iev = true ∨ s.ppc = .appended) := by
  intro s
  have hi : Inv s := inv_reach sched
  have key : s.signalled ≤ s.returned.length → s.buf ≠ [] → s.ppc = .appended := fun hs hb => by
    cases hp : s.ppc
    · exact absurd (hi.caughtUp hs hp) hb
    · rfl
  constructor
  · intro hc hb
    cases hw : s.woken
    · exact .inr (key (hi.unsigW hc hw).1 hb)
    · exact .inl rfl
  · intro hc hb
    cases hv : s.iev
    · exact .inr (key (hi.unsig (by rw [hc]; rfl) hv) hb)
    · exact .inl rfl

example : let s := run init [.conn .connect, .conn .connect, .start (.recv false), .cons true,
    .cons true, .cons true, .cons true, .prod]
    s.cpc = .r3w ∧ s.buf ≠ [] ∧ s.woken = false ∧ s.ppc = .appended := by decide

/-- … so a parked `receive()` with an available event always becomes enabled: the producer's next
    step (its `set`) notifies it, and four consumer steps later it has returned the head of the
    buffer (whatever else was appended meanwhile is behind it). -/
theorem parked_receive_is_released (s : State) (x : Nat) (rest : List Nat)
    (hc : s.cpc = .r3w) (hp : s.ppc = .appended) (hb : s.buf = x :: rest) (b1 b2 b3 b4 : Bool) :
    blocked (step s .prod) = false ∧
    (run s [.prod, .cons b1, .cons b2, .cons b3, .cons b4]).log.map Prod.fst =
      s.log.map Prod.fst ++ [.returned x] := by
  constructor
  · simp [step, prodStep, hp, setInput, hc, blocked]
  · simp [run, step, prodStep, hp, setInput, hc, consStep, hb, finish]

/-! ## TimeoutError -/

/-- number of arrivals that are *available*: signalled (append + set done) and not yet returned. -/
def available (v : View) : Nat := v.signalled - v.returnedN


/-
  FULL STATEMENT (false for this version of the code, see `timeout_full_statement_fails`):

    theorem timeout_only_when_unsignalled (sched) (v) :
        (Outcome.timeoutErr, v) ∈ (run init sched).log → available v = 0

  It fails only for a timeout of the wait on `connected_event` (pc r1w): `receive()` tests the buffer
  at the loop head and does not look at it again before / while waiting for the connection.
-/

/-- TimeoutError is raised only by a `receive(timeout)` that is parked and not notified; if it is
    parked on `input_event`, no arrival is available (every signalled arrival has been returned) and
    the flag is clear; otherwise it is parked on `connected_event` with that flag clear (connection
    lost or not yet established). -/
theorem timeout_only_when_unsignalled_partial (sched : List Choice) (v : View)
    (h : (Outcome.timeoutErr, v) ∈ (run init sched).log) :
    v.tmo = true ∧ v.woken = false ∧
    ((v.pc = .r3w ∧ available v = 0 ∧ v.iev = false) ∨ (v.pc = .r1w ∧ v.cev = false)) := by
  have ⟨h1, h2, h3⟩ := (inv_reach sched).logOK _ h
  exact ⟨h1, h2, h3.imp_left fun ⟨a, b, c⟩ => ⟨a, Nat.sub_eq_zero_of_le b, c⟩⟩

/-- non-vacuity: a timeout of the wait on input_event (connected, nothing arrived). -/
example : ((run init [.conn .connect, .conn .connect, .start (.recv true), .cons true, .cons true,
    .cons true, .cons true, .timeout]).log.map (fun e => (e.1, e.2.pc))) = [(.timeoutErr, .r3w)] := by decide

/-- the excluded region as a decidable hypothesis: a timeout that is not one of the connection wait. -/
theorem timeout_only_when_unsignalled_of_input_wait (sched : List Choice) (v : View)
    (h : (Outcome.timeoutErr, v) ∈ (run init sched).log) (hpc : v.pc ≠ .r1w) : available v = 0 := by
  rcases (timeout_only_when_unsignalled_partial sched v h).2.2 with ⟨_, b, _⟩ | ⟨a, _⟩
  · exact b
  · exact absurd a hpc

/-- the schedule reported in KNOWN_FINDINGS (recv-at-connection-wait-ignores-buffer): connect handler;
    receive(timeout) finds the buffer empty; an event arrives (append, set); disconnect handler;
    receive parks on connected_event; its timeout expires. -/
def timeoutWitness : List Choice :=
  [.conn .connect, .conn .connect, .start (.recv true), .cons true, .prod, .prod,
   .conn .disconnect, .cons true, .timeout]

theorem timeout_full_statement_fails :
    ¬ ∀ (sched : List Choice) (v : View),
        (Outcome.timeoutErr, v) ∈ (run init sched).log → available v = 0 :=
  fun h => absurd (h timeoutWitness (view (run init timeoutWitness.dropLast)) (by decide)) (by decide)

/-- the same region without a timeout: the call stays parked with an available event. -/
theorem held_back_witness :
    let s := run init timeoutWitness.dropLast
    blocked s = true ∧ s.cpc = .r1w ∧ s.buf = [0] ∧ s.signalled = 1 ∧ s.returned = [] := by decide

/-- … and the event is not lost: whenever a call is over and the buffer is non-empty, the next
    `receive()` returns its head without waiting for anything (two consumer steps). -/
theorem next_receive_returns_head (s : State) (x : Nat) (rest : List Nat) (t b1 b2 : Bool)
    (hc : s.cpc = .idle) (hb : s.buf = x :: rest) :
    (run s [.start (.recv t), .cons b1, .cons b2]).log.map Prod.fst =
      s.log.map Prod.fst ++ [.returned x] := by
  simp [run, step, startStep, hc, consStep, hb, finish]

example : (run init [.prod, .prod]).cpc = .idle ∧ (run init [.prod, .prod]).buf = [0] := by decide

/-- the same under any interference: whatever the producer and the connection handlers do before,
    between and after the two steps of the next `receive()`, it returns the event that was at the
    head of the buffer when the previous call ended. -/
theorem next_receive_returns_head_under_interference (s : State) (x : Nat) (rest : List Nat)
    (t b1 b2 : Bool) (e1 e2 e3 : List Choice)
    (h1 : ∀ c ∈ e1, isEnv c = true) (h2 : ∀ c ∈ e2, isEnv c = true) (h3 : ∀ c ∈ e3, isEnv c = true)
    (hc : s.cpc = .idle) (hb : s.buf = x :: rest) :
    (run s (e1 ++ [.start (.recv t)] ++ e2 ++ [.cons b1] ++ e3 ++ [.cons b2])).log.map Prod.fst =
      s.log.map Prod.fst ++ [.returned x] := by
  simp only [run_append]
  obtain ⟨a1, a2, x1, a3⟩ := env_run e1 h1 s
  generalize run s e1 = s1 at a1 a2 a3
  have hs2 : (run s1 [.start (.recv t)]).cpc = .r0 ∧ (run s1 [.start (.recv t)]).log = s.log ∧
      (run s1 [.start (.recv t)]).buf = x :: (rest ++ x1) := by
    simp [run, step, startStep, a1, hc, a2, a3, hb]
  generalize run s1 [.start (.recv t)] = s2 at hs2
  obtain ⟨b1', b2', x2, b3'⟩ := env_run e2 h2 s2
  generalize run s2 e2 = s3 at b1' b2' b3'
  have hs4 : (run s3 [.cons b1]).cpc = .r5 ∧ (run s3 [.cons b1]).log = s.log ∧
      (run s3 [.cons b1]).buf = x :: (rest ++ x1 ++ x2) := by
    simp [run, step, consStep, b1', hs2.1, b3', hs2.2.2, b2', hs2.2.1]
  generalize run s3 [.cons b1] = s4 at hs4
  obtain ⟨c1', c2', x3, c3'⟩ := env_run e3 h3 s4
  generalize run s4 e3 = s5 at c1' c2' c3'
  simp [run, step, consStep, c1', hs4.1, c3', hs4.2.2, finish, c2', hs4.2.1]

/-- "the event, if any, is returned by the next receive()": after any schedule that leaves no call
    in progress (in particular right after a TimeoutError or DisconnectedError) while a signalled
    arrival is unreturned, the next `receive()` returns exactly the oldest unreturned arrival. -/
theorem available_event_is_returned_next (sched : List Choice) (t b1 b2 : Bool) :
    let s := run init sched
    s.cpc = .idle → s.returned.length < s.signalled →
      (run s [.start (.recv t), .cons b1, .cons b2]).log.map Prod.fst =
        s.log.map Prod.fst ++ [.returned s.returned.length] := by
  intro s hc hlt
  have hi : Inv s := inv_reach sched
  cases hb : s.buf with
  | nil => have := hi.drained hb; have := hi.sigLe; omega
  | cons x rest =>
    rw [← hi.head_eq hb]
    exact next_receive_returns_head s x rest t b1 b2 hc hb

example : let s := run init C19.timeoutWitness
    s.cpc = .idle ∧ s.returned.length < s.signalled := by decide

/-! ## DisconnectedError -/

/-
  `receive()` after the repair of the recorded finding `disconnected-before-drain`:

      if not self.connected:            -- r2
          if self.input_buffer:         -- r2b   events that arrived before the end are returned first
              break
          raise DisconnectedError()

  "The connection has ended for good" is the ghost `ended` (the last connect / __disconnect_final
  handler started is `__disconnect_final`; together with `fresh = false`: some handler ran at all).
  The read of `self.connected` and the test of the buffer are two accesses, and the schedules of the
  model are NOT restricted to those in which an end "for good" is final: a connect handler may start
  after `__disconnect_final`, also between those two accesses (`revived`).  The statement therefore
  says: the connection had ended for good when `self.connected` was read (`endedRd`), and it still has
  in the raising state unless a connect handler has started after a final one.
-/

/-- DisconnectedError (from receive, emit or call) is raised only after `__disconnect_final`, in
    EVERY schedule; from `receive()` only in a state in which the buffer is empty and every event
    that has arrived — signalled or not — has been returned (no arrival is available). -/
theorem disconnected_after_drain (sched : List Choice) (v : View)
    (h : (Outcome.disconnectedErr, v) ∈ (run init sched).log) :
    (v.pc = .r2b ∨ v.pc = .e2) ∧ v.fresh = false ∧
    (v.conn = false → v.ended = true) ∧
    (v.revived = false → v.ended = true ∧ v.conn = false) ∧
    (v.pc = .e2 → v.ended = true ∧ v.conn = false) ∧
    (v.pc = .r2b →
      v.endedRd = true ∧ v.buf = [] ∧ v.returnedN = v.arrivedN ∧ available v = 0) := by
  obtain ⟨h1, h2, h3, ⟨a, b, c, d, e⟩ | ⟨a, b, c⟩⟩ := (inv_reach sched).logOK _ h
  · exact ⟨.inl a, h1, h2, h3, fun hp => (by rw [a] at hp; cases hp),
      fun _ => ⟨e, b, c, Nat.sub_eq_zero_of_le d⟩⟩
  · exact ⟨.inr a, h1, h2, h3, fun _ => ⟨b, c⟩, fun hp => by rw [a] at hp; cases hp⟩

/-- the clause of the property, literally: in every schedule in which the end of the connection is
    for good (no connect handler starts after a `__disconnect_final` handler), DisconnectedError is
    raised only in a state where the connection has ended for good and — for `receive()` — every
    arrived event has been returned. -/
theorem disconnected_after_drain_for_good (sched : List Choice) (v : View)
    (h : (Outcome.disconnectedErr, v) ∈ (run init sched).log) (hg : v.revived = false) :
    v.ended = true ∧ v.conn = false ∧
    (v.pc = .r2b → v.buf = [] ∧ v.returnedN = v.arrivedN ∧ available v = 0) := by
  obtain ⟨_, _, _, h4, _, h6⟩ := disconnected_after_drain sched v h
  exact ⟨(h4 hg).1, (h4 hg).2, fun hpc => (h6 hpc).2⟩

/-- non-vacuity: DisconnectedError from receive() with everything drained (r2b) and from emit() (e2),
    in a schedule where the end is for good. -/
example : ((run init [.conn .connect, .conn .connect, .conn .disconnect, .conn .final, .conn .final,
    .start (.recv false), .cons true, .cons true, .cons true, .cons true, .start .send, .cons true,
    .cons true]).log.map (fun e => (e.1, e.2.pc, e.2.buf, e.2.ended, e.2.revived))) =
      [(.disconnectedErr, .r2b, [], true, false), (.disconnectedErr, .e2, [], true, false)] := by decide

/-- the schedule of the former finding `disconnected-before-drain` (the event arrives between the
    empty-buffer test and the end of the connection), continued: -/
def lateArrival : List Choice :=
  [.conn .connect, .conn .connect, .start (.recv false), .cons true, .prod, .prod,
   .conn .disconnect, .conn .final, .conn .final, .cons true, .cons true, .cons true, .cons true,
   .start (.recv false), .cons true, .cons true, .cons true, .cons true]

/-- non-vacuity: … `receive()` reads `connected = False` (r2) with the event buffered and signalled,
    returns it, and the next `receive()` raises DisconnectedError from the drained buffer. -/
example :
    (let s := run init (lateArrival.take 11)
     s.cpc = .r2b ∧ s.conn = false ∧ s.ended = true ∧ s.buf = [0] ∧ s.signalled = 1 ∧ s.returned = []) ∧
    (run init lateArrival).log.map (fun e => (e.1, e.2.pc, e.2.buf, e.2.returnedN)) =
      [(.returned 0, .r5, [0], 0), (.disconnectedErr, .r2b, [], 1)] := by decide

/-- why `revived` is in the statement: a connect handler that starts between the read of
    `self.connected` and the test of the buffer is the only way `ended` is false in the raising state
    (the connection HAD ended for good when `connected` was read). -/
example : ((run init [.conn .connect, .conn .connect, .conn .final, .conn .final, .start (.recv false),
    .cons true, .cons true, .cons true, .conn .connect, .cons true]).log.map
    (fun e => (e.1, e.2.pc, e.2.ended, e.2.endedRd, e.2.revived))) =
      [(.disconnectedErr, .r2b, false, true, true)] := by decide

/-! ## emit() / call() -/

/-- emit/call finish in exactly two ways: the client accepted the event (`sent`, at e3), or
    DisconnectedError after the connection ended for good; TimeoutError belongs to receive() only. -/
theorem emit_waits (sched : List Choice) (o : Outcome) (v : View)
    (h : (o, v) ∈ (run init sched).log) :
    (o = .sent → v.pc = .e3) ∧
    (o = .disconnectedErr → v.pc ≠ .r2b → v.pc = .e2 ∧ v.ended = true ∧ v.conn = false) ∧
    (o = .timeoutErr → v.pc = .r1w ∨ v.pc = .r3w) ∧
    (v.pc = .e1 ∨ v.pc = .e1w ∨ v.pc = .e2 ∨ v.pc = .e3 → o = .sent ∨ (o = .disconnectedErr ∧ v.ended = true)) := by
  have hg := (inv_reach sched).logOK _ h
  cases o <;> simp only [Good] at hg
  · exact ⟨nofun, nofun, nofun, by rw [hg.1]; nofun⟩
  · exact ⟨fun _ => hg, nofun, nofun, fun _ => .inl rfl⟩
  · rcases hg.2.2 with ⟨a, _⟩ | ⟨a, _⟩
    · exact ⟨nofun, nofun, fun _ => .inr a, by rw [a]; nofun⟩
    · exact ⟨nofun, nofun, fun _ => .inl a, by rw [a]; nofun⟩
  · rcases hg.2.2.2 with ⟨a, _⟩ | ⟨a, b, c⟩
    · exact ⟨nofun, fun _ hne => absurd a hne, nofun, by rw [a]; nofun⟩
    · exact ⟨nofun, fun _ _ => ⟨a, b, c⟩, nofun, fun _ => .inr ⟨rfl, b⟩⟩

/-- non-vacuity: emit() during a reconnection: refused once by the client, parked, released by the
    connect handler, accepted. -/
example : ((run init [.conn .connect, .conn .connect, .start .send, .cons true, .cons true,
    .conn .disconnect, .cons false, .cons true, .conn .connect, .conn .connect, .cons true, .cons true,
    .cons true]).log.map Prod.fst) = [.sent] := by decide

/-- while a reconnection is in progress (a disconnect handler ran, no connect/final handler has set
    the event since) the connected event is clear, an emit()/call() that reaches the wait parks
    without an outcome, and once parked nothing but a connection handler moves it. -/
theorem emit_parks_while_reconnecting (sched : List Choice) :
    let s := run init sched
    s.recon = true →
      s.cev = false ∧
      (s.cpc = .e1 → ∀ ok, (step s (.cons ok)).cpc = .e1w ∧ (step s (.cons ok)).log = s.log) ∧
      (s.cpc = .e1w → s.woken = false → ∀ c, (∀ k, c ≠ .conn k) →
        (step s c).cpc = .e1w ∧ (step s c).woken = false ∧ (step s c).log = s.log) := by
  intro s hr
  have hcev : s.cev = false := (inv_reach sched).reconC hr
  refine ⟨hcev, ?_, ?_⟩
  · intro hc ok
    simp [step, consStep, hc, hcev]
  · intro hc hw c hnc
    cases c with
    | conn k => exact absurd rfl (hnc k)
    | prod => simp only [step, prodStep]; split <;> simp [setInput, hc, hw]
    | cons ok => simp [step, consStep, hc, hw]
    | timeout => simp [step, timeoutStep, canTimeout, hc, hw]
    | start op => simp [step, startStep, hc, hw]

example : let s := run init [.conn .connect, .conn .connect, .start .send, .conn .disconnect, .cons true]
    s.recon = true ∧ s.cpc = .e1w ∧ s.woken = false := by decide

/-! ## liveness observation -/

/-- the consumer is inside a call and neither its own steps nor the expiry of a timeout move it -/
def stuck (s : State) : Prop := (∀ ok, consStep s ok = s) ∧ timeoutStep s = s

/-- Once the connection has ended for good (final handler completed: `ended`, connected event set),
    the only way a call in progress can be stuck is `receive(timeout=None)` parked on `input_event`
    and not notified — `__disconnect_final` sets the *connected* event only.  In that state, if the
    producer is idle, the buffer is empty: nothing is lost, but DisconnectedError never surfaces. -/
theorem deadlock_characterised (sched : List Choice) :
    let s := run init sched
    s.ended = true → s.cev = true → s.cpc ≠ .idle →
      ((stuck s ↔ (s.cpc = .r3w ∧ s.tmo = false ∧ s.woken = false)) ∧
       (s.cpc = .r3w → s.woken = false → s.ppc = .idle → s.buf = [])) := by
  intro s _ hcev hidle
  have hi : Inv s := inv_reach sched
  refine ⟨⟨?_, ?_⟩, fun hc hw hp => hi.caughtUp (hi.unsigW hc hw).1 hp⟩
  · intro ⟨h1, h2⟩
    have hb := ((consStep_frame s true).2.2.2 (congrArg State.cpc (h1 true))).resolve_left hidle
    simp only [blocked, Bool.and_eq_true, Bool.or_eq_true, decide_eq_true_eq, Bool.not_eq_true'] at hb
    obtain ⟨hc, hw⟩ := hb
    have hp : s.cpc.waitsConn ≠ true := fun hwc => by
      have := hi.parkedC hwc hw; rw [hcev] at this; cases this
    rcases hc with (hc | hc) | hc
    · exact absurd (by rw [hc]; rfl) hp
    · refine ⟨hc, ?_, hw⟩
      have ht := congrArg State.cpc h2
      cases htm : s.tmo
      · rfl
      · simp [timeoutStep, canTimeout, hc, hw, htm, finish] at ht
    · exact absurd (by rw [hc]; rfl) hp
  · intro ⟨hc, htm, hw⟩
    constructor
    · intro ok; simp [consStep, hc, hw]
    · simp [timeoutStep, canTimeout, hc, htm]

/-- such a state is reachable: receive() parks on input_event, then disconnect + final. -/
example : let s := run init [.conn .connect, .conn .connect, .start (.recv false), .cons true,
    .cons true, .cons true, .cons true, .conn .disconnect, .conn .final, .conn .final]
    s.ended = true ∧ s.cev = true ∧ s.cpc = .r3w ∧ s.tmo = false ∧ s.woken = false ∧ s.buf = [] := by
  decide

/-! ## asyncio variant -/

/-- every asyncio schedule is a thread schedule (handlers run to completion, the consumer runs until
    an await really suspends) … -/
theorem async_schedule_is_thread_schedule (asched : List Choice) :
    ∃ sched, Async.run init asched = run init sched := arun_is_run asched init

/-- a consumer step of the asyncio variant always ends at a real suspension point (the call is over,
    it awaits `client.emit/call`, or it is parked and not notified), from any state whatsoever. -/
theorem async_consumer_runs_to_suspension (s : State) (ok : Bool) :
    Async.stop (Async.step s (.cons ok)) = true := consRun_stops _

/-- … so whatever holds after every thread schedule holds after every asyncio schedule. -/
theorem async_transfer (P : State → Prop) (h : ∀ sched, P (run init sched)) (asched : List Choice) :
    P (Async.run init asched) := by
  obtain ⟨l, hl⟩ := async_schedule_is_thread_schedule asched
  rw [hl]; exact h l

theorem fifo_once_async (asched : List Choice) :
    (Async.run init asched).returned <+: (Async.run init asched).arrived :=
  async_transfer (fun s => s.returned <+: s.arrived) fifo_once asched

theorem conservation_async (asched : List Choice) :
    (Async.run init asched).arrived = (Async.run init asched).returned ++ (Async.run init asched).buf :=
  async_transfer (fun s => s.arrived = s.returned ++ s.buf) conservation asched

theorem no_lost_wakeup_async (asched : List Choice) :
    let s := Async.run init asched
    (s.cpc = .r3w → s.buf ≠ [] → s.woken = true ∨ s.ppc = .appended) ∧
    (s.cpc = .r3 → s.buf ≠ [] → s.iev = true ∨ s.ppc = .appended) :=
  async_transfer (fun s => (s.cpc = .r3w → s.buf ≠ [] → s.woken = true ∨ s.ppc = .appended) ∧
    (s.cpc = .r3 → s.buf ≠ [] → s.iev = true ∨ s.ppc = .appended)) no_lost_wakeup asched

theorem timeout_only_when_unsignalled_partial_async (asched : List Choice) (v : View)
    (h : (Outcome.timeoutErr, v) ∈ (Async.run init asched).log) :
    v.tmo = true ∧ v.woken = false ∧
    ((v.pc = .r3w ∧ available v = 0 ∧ v.iev = false) ∨ (v.pc = .r1w ∧ v.cev = false)) :=
  async_transfer (fun s => (Outcome.timeoutErr, v) ∈ s.log → _)
    (fun sched => timeout_only_when_unsignalled_partial sched v) asched h

theorem disconnected_after_drain_async (asched : List Choice) (v : View)
    (h : (Outcome.disconnectedErr, v) ∈ (Async.run init asched).log) :
    (v.pc = .r2b ∨ v.pc = .e2) ∧ v.fresh = false ∧
    (v.conn = false → v.ended = true) ∧
    (v.revived = false → v.ended = true ∧ v.conn = false) ∧
    (v.pc = .e2 → v.ended = true ∧ v.conn = false) ∧
    (v.pc = .r2b →
      v.endedRd = true ∧ v.buf = [] ∧ v.returnedN = v.arrivedN ∧ available v = 0) :=
  async_transfer (fun s => (Outcome.disconnectedErr, v) ∈ s.log → _)
    (fun sched => disconnected_after_drain sched v) asched h

/-- in the asyncio variant the read of `self.connected` and the test of the buffer are in one block
    (no await between them), so the clause holds literally in EVERY schedule, with no hypothesis on
    the environment: DisconnectedError is raised only in a state in which the connection has ended
    for good and — for `receive()` — every arrived event has been returned. -/
theorem disconnected_after_drain_async_literal (asched : List Choice) (v : View)
    (h : (Outcome.disconnectedErr, v) ∈ (Async.run init asched).log) :
    v.ended = true ∧ v.conn = false ∧
    (v.pc = .r2b → v.buf = [] ∧ v.returnedN = v.arrivedN ∧ available v = 0) := by
  obtain ⟨h1, _, h3, _, h5, h6⟩ := disconnected_after_drain_async asched v h
  have hconn : v.conn = false := by
    rcases h1 with hp | hp
    · exact (ard_areach asched).1 _ h rfl hp
    · exact (h5 hp).2
  exact ⟨h3 hconn, hconn, fun hpc => (h6 hpc).2⟩

theorem emit_waits_async (asched : List Choice) (o : Outcome) (v : View)
    (h : (o, v) ∈ (Async.run init asched).log) :
    (o = .sent → v.pc = .e3) ∧
    (o = .disconnectedErr → v.pc ≠ .r2b → v.pc = .e2 ∧ v.ended = true ∧ v.conn = false) ∧
    (o = .timeoutErr → v.pc = .r1w ∨ v.pc = .r3w) ∧
    (v.pc = .e1 ∨ v.pc = .e1w ∨ v.pc = .e2 ∨ v.pc = .e3 → o = .sent ∨ (o = .disconnectedErr ∧ v.ended = true)) :=
  async_transfer (fun s => (o, v) ∈ s.log → _) (fun sched => emit_waits sched o v) asched h

/-- the asyncio counterpart of the witness needs the event handler to run after the disconnect
    handler (the only way an arrival can fall between the buffer test and the wait when the consumer
    yields only at real suspensions). -/
def timeoutWitnessAsync : List Choice :=
  [.conn .connect, .conn .disconnect, .start (.recv true), .cons true, .prod, .timeout]

/-- non-vacuity (asyncio) of `disconnected_after_drain_async`, on the schedule of the former finding:
    receive() parks on connected_event (reconnecting), the event arrives, the connection ends for
    good; the resumed receive() returns the event, the next one raises DisconnectedError. -/
def lateArrivalAsync : List Choice :=
  [.conn .connect, .conn .disconnect, .start (.recv false), .cons true, .prod, .conn .final, .cons true,
   .start (.recv false), .cons true]

example :
    (let s := Async.run init (lateArrivalAsync.take 6)
     s.cpc = .r1w ∧ s.woken = true ∧ s.conn = false ∧ s.ended = true ∧ s.buf = [0] ∧ s.signalled = 1) ∧
    (Async.run init lateArrivalAsync).log.map (fun e => (e.1, e.2.pc, e.2.buf, e.2.returnedN, e.2.ended)) =
      [(.returned 0, .r5, [0], 0, true), (.disconnectedErr, .r2b, [], 1, true)] := by decide

theorem timeout_full_statement_fails_async :
    ¬ ∀ (asched : List Choice) (v : View),
        (Outcome.timeoutErr, v) ∈ (Async.run init asched).log → available v = 0 :=
  fun h => absurd (h timeoutWitnessAsync (view (Async.run init timeoutWitnessAsync.dropLast)) (by decide))
    (by decide)

end Sio.C19
