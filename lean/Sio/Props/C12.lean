/-
  C12 — hostile input from one client is contained.

  The theorems are *parametric in the decoder*: `dec : Str → Except Err (Packet × Nat)` is
  universally quantified, so they hold for whatever the real decoder makes of a frame (every
  packet type, namespace, id, attachment count, payload shape, or an exception), and for every
  non-text value engine.io can hand up (`decodeOdd`).  `view t s` erases everything indexed by
  transport `t` or by one of its sessions, the global counters and the `call()` results.

  What is proved: a frame from `t`, in any well-formed state, leaves `view t` unchanged, sends
  only to `t`, invokes handlers only with a session id of `t`, fires only callbacks registered
  for a session of `t` (`step_confined`; sequences: `hostile_run_confined`); for a session on
  another transport every public query — rooms, transport, outstanding callbacks, ack counter —
  and every stored user session of another transport is unchanged (`bystander_unchanged`), and
  the state stays well formed, so every theorem of C04–C06, C11, C16 keeps applying to the others
  afterwards (`still_serving`); an undecodable frame
  changes nothing and reaches no handler (`undecodable_inert`); what a frame makes the server
  store is bounded by item counts that do not depend on any declared number (`bounded_reserve`).

  Noninterference (`noninterference`, `output_consistent`): for handler scripts whose outcomes do
  not depend on the global invocation counters (`Script.Stable`, what the C12 harness uses), any
  interleaving of the hostile transport's inputs (its frames — arbitrary values, arbitrary
  decoder — and engine.io opening / losing it) with frames of other transports and engine.io
  opening other transports: what the others' inputs output in the mixed run is *exactly* what
  they output in a run without the hostile transport in which the id generator skips some ids
  (`runSkip`; the ids the hostile CONNECTs consumed) — and the final states agree outside `t`.
  The two obstacles named before are handled like this: the invocation counters by `Stable`;
  the global id counter not by renaming outputs afterwards but by letting the reference run's id
  generator skip ids — `generate_id()` only promises fresh ids (DESIGN §4), so "a hostile-free run
  with another sequence of fresh ids" is a hostile-free run.  With no skipped ids the reference is
  literally `run` (`runSkip_no_skips`).

  Remaining obligations, NOT proved:
   * bystander inputs other than frames / `eioConnect`: application API calls (emit, call,
     disconnect(), rooms, sessions), `settle` (so with `async_handlers = True` the handler
     invocations, which happen at `settle`, are not covered) and `eioLost t'` of a bystander.
     For `eioLost t'` literal equality is in fact false: the order in which the namespaces of
     `t'` get their disconnect handler is the order of `namespacesOf rooms`, which depends on
     whether the hostile transport was the first to use a namespace (so equality holds only up
     to a permutation of that step's outputs);
   * scripts that depend on the invocation counters.
-/
import Sio.Lemmas.ServerNIMain
namespace Sio.C12
open Sio Sio.Server Sio.Rooms

variable {dec : Str → Except Err (Packet × Nat)} {cfg : Cfg}

/-! ### demo state: transports A (hostile) and B, both connected to `/`, B has a callback
    outstanding and a room -/

def reg0 : Registry := ⟨fun _ _ => true, fun _ => true, fun _ => false, fun _ _ => false⟩
def cfg0 : Cfg := ⟨false, none, false, reg0, ⟨fun _ => .accept, fun _ => .ret .none, fun _ => .ok⟩⟩
/-- toy decoder: "c" CONNECT, "d" DISCONNECT, "a" ACK id 1, "x…" undecodable -/
def dec0 : Str → Except Err (Packet × Nat)
  | ['c'] => .ok (⟨CONNECT, none, none, none⟩, 0)
  | ['d'] => .ok (⟨DISCONNECT, none, none, none⟩, 0)
  | ['a'] => .ok (⟨ACK, none, some 1, some (.arr [])⟩, 0)
  | ['h'] => .ok (⟨BINARY_EVENT, none, none, none⟩, 9999999999)
  | _ => .error .valueError
def tA : Eio := ['A']
def tB : Eio := ['B']
def nsRoot : Ns := ['/']
def hist0 : List Input :=
  [.eioConnect tA, .eioConnect tB, .frame tA (.str ['c']), .frame tB (.str ['c']),
   .enterRoom (sidName 1) nsRoot ['r'], .emit ['e'] .none nsRoot (.one (sidName 1)) [] (some 7)]
def demo0 : Srv := (run dec0 cfg0 {} hist0).1
theorem demo0_wf : Server.WF demo0 := Server.WF.init.run dec0 cfg0 hist0

/-! ### `step_confined` -/

/-- A frame from transport `t` — whatever it decodes to — leaves everything the others can see
    unchanged, and each of its outputs is: a packet for `t`; a handler invocation that carries a
    session id of `t`; a callback that was outstanding for the session `t` has on the ACK's
    namespace (`Fires`); or a contained exception.  Never a `result` / `timeout`. -/
theorem step_confined {s : Srv} (h : Server.WF s) (t : Eio) (v : J) :
    view t (step dec cfg s (.frame t v)).1 = view t s ∧
    ∀ o ∈ (step dec cfg s (.frame t v)).2, o.hostileOk dec cfg s t v := by
  rw [step]
  exact ⟨view_handleFrame h dec cfg t v, frame_outs h dec cfg t v⟩

-- the hostile transport disconnects, reconnects and floods: B's rooms, callback, counter stay
example : (view tA (run dec0 cfg0 demo0
    [.frame tA (.str ['d']), .frame tA (.str ['c']), .frame tA (.str ['a']),
     .frame tA (.str ['h'])]).1).cbs = [(sidName 1, 1, .user 7)] := by decide +kernel

/-- In particular: no packet to another transport, and no callback of another transport's
    session (a callback that fires was outstanding for a session that lives on `t`). -/
theorem step_confined_others {s : Srv} (h : Server.WF s) (t : Eio) (v : J) :
    (∀ t' p, Out.send t' p ∈ (step dec cfg s (.frame t v)).2 → t' = t) ∧
    (∀ n args, Out.callback n args ∈ (step dec cfg s (.frame t v)).2 →
      ∃ sid i, onT s.rooms t sid = true ∧ (sid, i, CbTok.user n) ∈ s.cbs) := by
  have hc := (step_confined (dec := dec) (cfg := cfg) h t v).2
  constructor
  · intro t' p hm; exact hc _ hm
  · intro n args hm
    obtain ⟨nsp, id, data, s₀, sid, i, _, hs, _, hcb, _, _⟩ := hc _ hm
    exact ⟨sid, i, onT_of_sidOf hs, hcb⟩

/-- Any number of frames from `t` in a row: the others' view is the same afterwards, every
    packet sent went to `t`, and no `result` / `timeout` was produced. -/
theorem hostile_run_confined {s : Srv} (h : Server.WF s) (t : Eio) (vs : List J) :
    view t (run dec cfg s (vs.map (fun v => Input.frame t v))).1 = view t s ∧
    ∀ o ∈ (run dec cfg s (vs.map (fun v => Input.frame t v))).2,
      ∀ t' p, o = .send t' p → t' = t := by
  induction vs generalizing s with
  | nil => simp [run_nil]
  | cons v vs ih =>
    rw [List.map_cons, run_cons]
    have h1 := step_confined (dec := dec) (cfg := cfg) h t v
    have h2 := ih (h.step dec cfg (.frame t v))
    refine ⟨h2.1.trans h1.1, ?_⟩
    intro o ho t' p heq
    rcases List.mem_append.mp ho with ho | ho
    · subst heq; exact h1.2 _ ho
    · exact h2.2 o ho t' p heq

/-- What that means for a bystander: for a session that lives on another transport `t'`, after
    any number of frames from `t` — whatever they decode to — its rooms, its transport, its
    outstanding callbacks, its ack counter, and the stored user sessions of every transport other
    than `t` are exactly what they were. -/
theorem bystander_unchanged {s : Srv} (h : Server.WF s) {t t' : Eio} (hne : t' ≠ t) {ns' : Ns}
    {sid' : Sid} (he : eioOf s.rooms ns' sid' = some t') (vs : List J) :
    let s' := (run dec cfg s (vs.map (fun v => Input.frame t v))).1
    (∀ ns, getRooms s'.rooms ns sid' = getRooms s.rooms ns sid') ∧
    (∀ ns, eioOf s'.rooms ns sid' = eioOf s.rooms ns sid') ∧
    s'.cbs.filter (fun x => x.1 == sid') = s.cbs.filter (fun x => x.1 == sid') ∧
    ctrOf s'.ctr sid' = ctrOf s.ctr sid' ∧
    (∀ t'' ns, t'' ≠ t → sessGet s' t'' ns = sessGet s t'' ns) := by
  intro s'
  obtain ⟨k, rfl, hb⟩ := boundTo_of_eioOf h he
  have hb' : BoundTo k t' s' :=
    (Reach.run h dec cfg _).preserve (fun _ _ _ => BoundTo.prim) hb
  exact bystander_of_view (hostile_run_confined (dec := dec) (cfg := cfg) h t vs).1
    (not_onT_of_boundTo hb hne) (not_onT_of_boundTo hb' hne)

example : eioOf demo0.rooms nsRoot (sidName 1) = some tB := by decide +kernel

/-- The server keeps serving: after any history whatsoever — hostile frames included — the state
    satisfies the invariant from which all theorems about connects, events, acknowledgements,
    disconnects and sessions of the other clients are proved. -/
theorem still_serving {s : Srv} (h : Server.WF s) (is : List Input) :
    Server.WF (run dec cfg s is).1 := h.run dec cfg is

/-! ### noninterference -/

theorem cfg0_stable : cfg0.script.Stable := ⟨fun _ _ => rfl, fun _ _ => rfl, fun _ _ => rfl⟩

/-- **Second unwinding lemma** (`output_consistent`): an input of another transport — a frame
    with any content, or engine.io opening it — produces the same outputs from `s₁` and `s₂`
    whenever the two states agree outside `t` (`strip t`), and the successors agree outside `t`
    again.  Handler outcomes must not depend on the invocation counters (`Stable`). -/
theorem output_consistent (hst : cfg.script.Stable) {s₁ s₂ : Srv} (h₁ : Server.WF s₁)
    (h₂ : Server.WF s₂) {t : Eio} (hs : strip t s₁ = strip t s₂) {i : Input}
    (hi : ofOther t i = true) :
    (step dec cfg s₁ i).2 = (step dec cfg s₂ i).2 ∧
    strip t (step dec cfg s₁ i).1 = strip t (step dec cfg s₂ i).1 :=
  loc_of_strip_eq hst h₁ h₂ hs hi

example : strip tA (step dec0 cfg0 demo0 (.frame tA (.str ['d']))).1 = strip tA demo0 ∧
    ofOther tA (.frame tB (.str ['a'])) = true := ⟨by rfl, rfl⟩

/-- **First unwinding lemma**, for all of the hostile transport's inputs: they change the state
    outside `t` at most by advancing the session-id counter. -/
theorem hostile_invisible {s : Srv} (h : Server.WF s) {t : Eio} {i : Input} (hi : ofT t i = true) :
    ∃ d, strip t (step dec cfg s i).1 = bump d (strip t s) :=
  strip_hostile h dec cfg hi

/-- **Noninterference.**  `mix` is any interleaving of inputs of the hostile transport `t` with
    inputs of other transports.  There is a schedule of id skips such that the run of the others'
    inputs alone, with those skips (`runSkip`), outputs exactly what the others' inputs output in
    the mixed run (`othersOuts`, a sublist of the mixed run's outputs in order), and ends in a
    state that agrees with the mixed run's outside `t`; every packet output by the hostile
    inputs goes to `t`, and every output of the mixed run is one or the other. -/
theorem noninterference (hst : cfg.script.Stable) {s : Srv} (h : Server.WF s) (t : Eio)
    (mix : List Input) (hmix : ∀ i ∈ mix, ofT t i = true ∨ ofOther t i = true) :
    ∃ skips : List Nat, skips.length = (mix.filter (ofOther t)).length ∧
      othersOuts dec cfg t s mix =
        (runSkip dec cfg s (skips.zip (mix.filter (ofOther t)))).2 ∧
      (∃ d, strip t (run dec cfg s mix).1 =
        strip t (bump d (runSkip dec cfg s (skips.zip (mix.filter (ofOther t)))).1)) ∧
      List.Sublist (othersOuts dec cfg t s mix) (run dec cfg s mix).2 ∧
      (∀ o ∈ (run dec cfg s mix).2,
        o ∈ hostileOuts dec cfg t s mix ∨ o ∈ othersOuts dec cfg t s mix) ∧
      (∀ o ∈ hostileOuts dec cfg t s mix, ∀ t' p, o = .send t' p → t' = t) := by
  obtain ⟨skips, h1, h2, h3⟩ := ni_sim (dec := dec) hst t mix hmix s s h h ⟨0, rfl⟩
  exact ⟨skips, h1, h2, h3, othersOuts_sublist dec cfg t mix s,
    fun o ho => (mem_run_outs dec cfg t mix s o).mp ho, hostileOuts_sends t mix s h⟩

/-- When the hostile inputs consumed no session id the reference run is literally `run`. -/
theorem runSkip_no_skips (s : Srv) (is : List Input) :
    runSkip dec cfg s (is.map (fun i => (0, i))) = run dec cfg s is := by
  induction is generalizing s with
  | nil => rw [run_nil]; rfl
  | cons i is ih => rw [List.map_cons, runSkip, run_cons, ih]; rfl

-- A disconnects, reconnects (consuming the id `s2`), sends garbage and a giant binary header;
-- meanwhile transport C is opened and connects, and B acknowledges its outstanding callback
def tC : Eio := ['C']
def mix0 : List Input :=
  [.frame tA (.str ['d']), .frame tA (.str ['c']), .eioConnect tC, .frame tA (.str ['x', '1']),
   .frame tC (.str ['c']), .frame tA (.str ['h']), .frame tB (.str ['a']), .eioLost tA ['q']]
example : ∀ i ∈ mix0, ofT tA i = true ∨ ofOther tA i = true := by decide +kernel
example : mix0.filter (ofOther tA) = [.eioConnect tC, .frame tC (.str ['c']), .frame tB (.str ['a'])] := by
  rfl
-- the others' outputs in the mixed run = the hostile-free run in which one id is skipped
example : othersOuts dec0 cfg0 tA demo0 mix0 =
    (runSkip dec0 cfg0 demo0 [(1, .eioConnect tC), (0, .frame tC (.str ['c'])),
      (0, .frame tB (.str ['a']))]).2 := by rfl
example : othersOuts dec0 cfg0 tA demo0 mix0 =
    [.invoke (.fn nsRoot "connect".toList) [.str (sidName 3)], .send tC (pktConnect nsRoot (sidName 3)),
     .callback 7 []] := by rfl

/-! ### `undecodable_inert` -/

/-- A text frame the decoder rejects, while no binary packet of `t` is being reassembled: the
    state is unchanged and the only output is the contained exception — no handler, no packet.
    (While a binary packet is pending, *any* frame is taken as its next attachment: it is stored,
    `bounded_reserve`, and still reaches no handler and no other client, `step_confined`.) -/
theorem undecodable_inert {s : Srv} {t : Eio} {c : Char} {cs : Str} {e : Err}
    (hd : dec (c :: cs) = .error e) (hb : s.binbuf.find? (fun x => x.1 = t) = none) :
    step dec cfg s (.frame t (.str (c :: cs))) = (s, [.raised e]) := by
  rw [step, handleFrame_text dec cfg hb]
  simp only [frameDecode, hd]

example : dec0 ['x', '9'] = .error .valueError ∧
    demo0.binbuf.find? (fun x => x.1 = tA) = none := ⟨rfl, rfl⟩

/-- a stray binary frame (no binary packet pending) is a contained `TypeError` -/
theorem stray_binary_inert {s : Srv} {t : Eio} {b : UInt8} {bs : Bytes}
    (hb : s.binbuf.find? (fun x => x.1 = t) = none) :
    step dec cfg s (.frame t (.bin (b :: bs))) = (s, [.raised .typeError]) := by
  rw [step, handleFrame_text dec cfg hb]
  simp only [frameDecode]

/-! ### `bounded_reserve` -/

/-- What one frame can make the server store, for every decoder result (so: whatever attachment
    count or id the frame declares): at most two room entries, one queued handler, one `call()`
    result, one reassembly-buffer entry; callbacks, counters, sessions, environ do not grow; and
    every partial packet in the buffer afterwards is an old one, a new header with *no*
    attachment stored, or an old one with exactly this frame appended.  The declared count
    (`Partial.need`) is kept as a number; nothing is sized by it. -/
theorem bounded_reserve {s : Srv} (h : Server.WF s) (t : Eio) (v : J) :
    FrameBound s (step dec cfg s (.frame t v)).1 v := by
  rw [step]; exact bound_handleFrame h dec cfg t v

-- a header that announces 9999999999 attachments stores one entry with no attachment
example : ((step dec0 cfg0 demo0 (.frame tA (.str ['h']))).1.binbuf.map
    (fun e => (e.1, e.2.need, e.2.got.length))) = [(tA, 9999999999, 0)] := by decide +kernel

end Sio.C12
