/-
  C03 — Rooms: an emit reaches exactly the addressed members, once each.

  Model: `Sio/Model/Rooms.lean` (the relation-as-list-of-entries rendering of
  `base_manager.py` / `manager.py` / `async_manager.py`), abstract specification:
  `Sio/Model/RoomsSpec.lean` (membership and connections as plain functions).
  Everything below holds for histories of any length over any number of clients, rooms and
  namespaces.  Helper lemmas: `Sio/Lemmas/Rooms*.lean`.
-/
import Sio.Lemmas.RoomsHist
import Sio.Lemmas.RoomsAlgebra
namespace Sio.C03
open Sio.Rooms

/-! ## Vocabulary of the statements -/

/-- `sid` is connected to `ns` (it is in room `None`, i.e. `eio_sid_from_sid` answers) -/
def connected (s : St) (ns : Ns) (sid : Sid) : Prop := eioOf s ns sid ≠ none

/-- `sid` is a member of at least one room the emit is addressed to (`Target.all`: no room is
    named, everybody on the namespace is addressed) -/
def addressedBy (s : St) (ns : Ns) (sid : Sid) : Target → Prop
  | .all => True
  | .one r => isMember s ns (some r) sid = true
  | .many rs => ∃ r ∈ rs, isMember s ns (some r) sid = true

/-- the states the real manager can be in: whatever a finite history produces from nothing -/
def Reachable (s : St) : Prop := ∃ ops : List Op, s = run [] ops

/-! ## A concrete history used for the non-vacuity examples

Two namespaces, three transports; `s0` and `s1` share room `r`, `s1` is also in room `q` and in
the room named like `s2`'s session id; transport `t0` is on both namespaces. -/

def nsA : Ns := ['/']
def nsB : Ns := ['/', 'b']
def t0 : Eio := ['t', '0']
def t1 : Eio := ['t', '1']
def t2 : Eio := ['t', '2']
def s0 : Sid := ['s', '0']
def s1 : Sid := ['s', '1']
def s2 : Sid := ['s', '2']
def s3 : Sid := ['s', '3']
def rR : Room := ['r']
def rQ : Room := ['q']

def demoOps : List Op :=
  [.connect nsA t0 s0, .connect nsA t1 s1, .connect nsA t2 s2, .connect nsB t0 s3,
   .enter nsA s0 rR, .enter nsA s1 rR, .enter nsA s1 rQ, .enter nsA s1 s2, .enter nsA s0 rR,
   .leave nsA s2 rQ, .closeRoom nsB rR]

def demo : St := run [] demoOps

/-! ## Invariant -/

theorem inv_init : Inv [] := Inv.nil

/-- every operation preserves the invariant: no duplicate entries; every member of any room of a
    namespace is in room `None` of that namespace with the same transport; session ↔ transport
    one-to-one per namespace -/
theorem inv_step {s : St} (h : Inv s) (op : Op) : Inv (apply s op) := h.apply op

theorem inv_reachable {s : St} (h : Reachable s) : Inv s := by
  obtain ⟨ops, rfl⟩ := h
  exact Inv.nil.run ops

example : Reachable demo := ⟨demoOps, rfl⟩
example : Inv demo := inv_reachable ⟨demoOps, rfl⟩
example : demo.length = 12 := by decide +kernel

/-! ## Refinement: the model is the abstract specification -/

/-- one operation on the model is the pointwise update of the specification -/
theorem refines {s : St} (h : Inv s) (op : Op) : abs (apply s op) = (abs s).apply op :=
  refines_op h op

/-- ... hence so is every finite history, from any state satisfying the invariant -/
theorem history_from {s : St} (h : Inv s) (ops : List Op) :
    abs (run s ops) = (abs s).run ops := by
  induction ops generalizing s with
  | nil => rfl
  | cons op ops ih =>
    show abs (run (apply s op) ops) = ((abs s).apply op).run ops
    rw [ih (h.apply op), refines h op]

/-- from the empty manager: the model after a history *is* the specification after that history -/
theorem history (ops : List Op) : abs (run [] ops) = Spec.init.run ops :=
  history_from Inv.nil ops

example : (abs demo).member nsA (some rR) s1 = true := by decide +kernel
example : (Spec.init.run demoOps).member nsA (some rR) s1 = true := by decide +kernel
example : (Spec.init.run demoOps).member nsB (some rR) s1 = false := by decide +kernel

/-! ## Exactly the addressed members, once each -/

/-- a session receives the emit iff it is connected to the namespace, is a member of at least one
    addressed room, and is not skipped -/
theorem recipients_exact {s : St} (h : Inv s) (ns : Ns) (t : Target) (skip : List Sid)
    (sid : Sid) :
    sid ∈ (recipients s ns t skip).map Prod.fst ↔
      connected s ns sid ∧ addressedBy s ns sid t ∧ sid ∉ skip := by
  have hc : isMember s ns none sid = true ↔ connected s ns sid := by
    unfold connected
    rw [Ne, eioOf_none_iff, isMember_iff]
    simp
  have ha : Rooms.addressed s ns sid t ↔ addressedBy s ns sid t := by
    cases t <;> rfl
  unfold recipients
  rw [mem_fst_filter_skip, h.mem_fst_participants, hc, ha, and_assoc]

/-- nobody receives an emit twice, even through overlapping rooms -/
theorem recipients_nodup {s : St} (h : Inv s) (ns : Ns) (t : Target) (skip : List Sid) :
    ((recipients s ns t skip).map Prod.fst).Nodup := by
  unfold recipients
  have := h.participants_nodup ns t
  rw [List.nodup_iff_pairwise_ne] at this ⊢
  rw [List.pairwise_map] at this ⊢
  exact this.filter _

/-- every frame goes to the transport recorded for that session in that namespace, and that
    transport's session on the namespace is this one: never a connection of another namespace -/
theorem sends_addressed {s : St} (h : Inv s) {ns : Ns} {t : Target} {skip : List Sid}
    {sid : Sid} {eio : Eio} (hm : (sid, eio) ∈ recipients s ns t skip) :
    eioOf s ns sid = some eio ∧ sidOf s ns eio = some sid := by
  unfold recipients at hm
  obtain ⟨room, he⟩ := mem_participants (List.mem_filter.mp hm).1
  exact ⟨h.eioOf_iff.mpr (h.inNone _ he), h.sidOf_iff.mpr (h.inNone _ he)⟩

/-- the same three statements about the state after any history, phrased on the specification:
    the recipients are exactly those the abstract statement of C03 names -/
theorem recipients_spec (ops : List Op) (ns : Ns) (t : Target) (skip : List Sid) (sid : Sid) :
    sid ∈ (recipients (run [] ops) ns t skip).map Prod.fst ↔
      (Spec.init.run ops).shouldReceive ns t skip sid = true := by
  rw [recipients_exact (Inv.nil.run ops), ← history ops]
  cases t <;> simp [Spec.shouldReceive, Spec.addressed, connected, addressedBy, abs,
    Option.isSome_iff_ne_none, and_assoc]

-- non-vacuity: overlapping rooms `r` and `s2`'s personal room, `s1` in both, `s0` skipped
example : recipients demo nsA (.many [rR, s2]) [s0] = [(s1, t1), (s2, t2)] := by decide +kernel
example : recipients demo nsA .all [] = [(s0, t0), (s1, t1), (s2, t2)] := by decide +kernel
example : recipients demo nsB .all [] = [(s3, t0)] := by decide +kernel
example : recipients demo nsA (.one rR) [s1] = [(s0, t0)] := by decide +kernel
example : (s1, t1) ∈ recipients demo nsA (.many [rR, rQ]) [] := by decide +kernel

/-! ## Left, closed, disconnected: not reached until it re-enters -/

/-- once `sid` is not in `room`, no sequence of operations that does not put it back makes it a
    member again -/
theorem not_member_stable {s : St} {ns : Ns} {room : Option Room} {sid : Sid} {ops : List Op}
    (h : isMember s ns room sid = false) (hops : ∀ op ∈ ops, ¬ op.enters ns room sid) :
    isMember (run s ops) ns room sid = false := not_member_run h hops

/-- after `leave_room` / `close_room` / disconnect (requested or by transport loss), an emit to
    that room does not reach the session, however many other operations happen in between, until
    the session enters the room again (`room = none`: until it connects again) -/
theorem left_never_reached {s : St} {ns : Ns} {room : Option Room} {sid : Sid} {op₀ : Op}
    (hrm : op₀.removes s ns room sid) {ops : List Op}
    (hops : ∀ op ∈ ops, ¬ op.enters ns room sid)
    {t : Target} (ht : t.rooms = [room]) (skip : List Sid) :
    sid ∉ (recipients (run (apply s op₀) ops) ns t skip).map Prod.fst := by
  intro hin
  obtain ⟨room', hr, hm⟩ := mem_fst_recipients_imp hin
  rw [ht, List.mem_singleton] at hr
  subst hr
  have := not_member_run (removes_not_member hrm) hops
  rw [this] at hm; cases hm

/-- the same for an emit to several rooms: a session that is in none of them, and enters none of
    them, is not reached -/
theorem not_addressed_never_reached {s : St} {ns : Ns} {sid : Sid} {t : Target}
    (h : ∀ room ∈ t.rooms, isMember s ns room sid = false) {ops : List Op}
    (hops : ∀ room ∈ t.rooms, ∀ op ∈ ops, ¬ op.enters ns room sid) (skip : List Sid) :
    sid ∉ (recipients (run s ops) ns t skip).map Prod.fst := by
  intro hin
  obtain ⟨room, hr, hm⟩ := mem_fst_recipients_imp hin
  have := not_member_run (h room hr) (hops room hr)
  rw [this] at hm; cases hm

/-- corollaries, one per way of leaving -/
theorem after_leave (s : St) (ns : Ns) (sid : Sid) (r : Room) (skip : List Sid) :
    sid ∉ (recipients (leave s ns sid (some r)) ns (.one r) skip).map Prod.fst :=
  left_never_reached (op₀ := .leave ns sid r) (ops := []) ⟨rfl, rfl, rfl⟩ (by simp) rfl skip

theorem after_close (s : St) (ns : Ns) (sid : Sid) (r : Room) (skip : List Sid) :
    sid ∉ (recipients (closeRoom s ns r) ns (.one r) skip).map Prod.fst :=
  left_never_reached (op₀ := .closeRoom ns r) (ops := []) ⟨rfl, rfl⟩ (by simp) rfl skip

theorem after_disconnect (s : St) (ns : Ns) (sid : Sid) (t : Target) (skip : List Sid) :
    sid ∉ (recipients (disconnect s ns sid) ns t skip).map Prod.fst := by
  apply not_addressed_never_reached (s := disconnect s ns sid) (ops := [])
  · intro room _
    exact removes_not_member (op := .disconnect ns sid) ⟨rfl, rfl⟩
  · simp

theorem after_lost (s : St) (ns : Ns) (sid : Sid) (eio : Eio) (h : sidOf s ns eio = some sid)
    (t : Target) (skip : List Sid) :
    sid ∉ (recipients (lost s eio) ns t skip).map Prod.fst := by
  apply not_addressed_never_reached (s := lost s eio) (ops := [])
  · intro room _
    exact removes_not_member (op := .lost eio) h
  · simp

-- non-vacuity: `s1` leaves `r`, other things happen (it even enters another room), then an emit
-- to `r` reaches `s0` only; after it re-enters it is reached again
example : (Op.leave nsA s1 rR).removes demo nsA (some rR) s1 := ⟨rfl, rfl, rfl⟩
example : ∀ op ∈ [Op.enter nsA s2 rR, Op.enter nsA s1 rQ, Op.connect nsB t1 ['s', '4']],
    ¬ op.enters nsA (some rR) s1 := by
  intro op hop
  simp only [List.mem_cons, List.not_mem_nil, or_false] at hop
  rcases hop with rfl | rfl | rfl <;> simp [Op.enters] <;> decide
example : recipients (run demo [.leave nsA s1 rR, .enter nsA s2 rR, .enter nsA s1 rQ]) nsA
    (.one rR) [] = [(s0, t0), (s2, t2)] := by decide +kernel
example : recipients (run demo [.leave nsA s1 rR, .enter nsA s1 rR]) nsA (.one rR) []
    = [(s0, t0), (s1, t1)] := by decide +kernel
example : sidOf demo nsB t0 = some s3 := by decide +kernel
example : recipients (lost demo t0) nsA .all [] = [(s1, t1), (s2, t2)] := by decide +kernel
example : recipients (lost demo t0) nsB .all [] = [] := by decide +kernel

/-! ## `rooms()` -/

/-- `rooms(sid)` lists exactly the rooms the session is a member of ... -/
theorem rooms_query (s : St) (ns : Ns) (sid : Sid) (r : Room) :
    r ∈ getRooms s ns sid ↔ isMember s ns (some r) sid = true := mem_getRooms

/-- ... each once ... -/
theorem rooms_nodup {s : St} (h : Inv s) (ns : Ns) (sid : Sid) : (getRooms s ns sid).Nodup :=
  h.getRooms_nodup ns sid

/-- ... which after any history is: entered (the personal room at connect) and not since left,
    closed, or disconnected -/
theorem rooms_spec (ops : List Op) (ns : Ns) (sid : Sid) (r : Room) :
    r ∈ getRooms (run [] ops) ns sid ↔ (Spec.init.run ops).member ns (some r) sid = true := by
  rw [rooms_query, ← history ops]; rfl

example : getRooms demo nsA s1 = [s1, rR, rQ, s2] := by decide +kernel
example : getRooms demo nsB s1 = [] := by decide +kernel

/-! ## Algebra of the room operations

Repetition and order of room operations are not observable: stated on `abs`, i.e. on every
membership / connection query, and carried to the recipients of any later emit. -/

/-- entering a room twice is the same as entering it once: observable membership and connections
    are unchanged by the repetition -/
theorem enter_idempotent {s : St} (h : Inv s) (ns : Ns) (sid : Sid) (r : Room) :
    abs (apply (apply s (.enter ns sid r)) (.enter ns sid r)) = abs (apply s (.enter ns sid r)) := by
  rw [refines (h.apply _), refines h, Spec_enter_idem]

theorem leave_idempotent {s : St} (h : Inv s) (ns : Ns) (sid : Sid) (r : Room) :
    abs (apply (apply s (.leave ns sid r)) (.leave ns sid r)) = abs (apply s (.leave ns sid r)) := by
  rw [refines (h.apply _), refines h, Spec_leave_idem]

/-- the order in which clients enter rooms is not observable -/
theorem enter_commutes {s : St} (h : Inv s) (ns ns' : Ns) (sid sid' : Sid) (r r' : Room) :
    abs (apply (apply s (.enter ns sid r)) (.enter ns' sid' r'))
      = abs (apply (apply s (.enter ns' sid' r')) (.enter ns sid r)) := by
  rw [refines (h.apply _), refines h, refines (h.apply _), refines h, Spec_enter_comm]

/-- what an emit reaches depends only on the observable state (`abs`): two manager states with the
    same memberships and connections serve the same recipients -/
theorem recipients_of_abs {s s' : St} (h : Inv s) (h' : Inv s') (e : abs s = abs s')
    (ns : Ns) (t : Target) (skip : List Sid) (sid : Sid) :
    sid ∈ (recipients s ns t skip).map Prod.fst ↔ sid ∈ (recipients s' ns t skip).map Prod.fst := by
  have hm : isMember s = isMember s' := congrArg Spec.member e
  have hc : eioOf s = eioOf s' := congrArg Spec.conn e
  rw [recipients_exact h, recipients_exact h']
  unfold connected
  rw [hc]
  have : addressedBy s ns sid t ↔ addressedBy s' ns sid t := by
    cases t <;> simp [addressedBy, hm]
  rw [this]

/-- so the recipients of any emit are the same whether a client entered a room once or twice, and
    whichever of two clients entered first -/
theorem recipients_enter_twice {s : St} (h : Inv s) (ns : Ns) (sid : Sid) (r : Room)
    (ns' : Ns) (t : Target) (skip : List Sid) (x : Sid) :
    x ∈ (recipients (apply (apply s (.enter ns sid r)) (.enter ns sid r)) ns' t skip).map Prod.fst ↔
    x ∈ (recipients (apply s (.enter ns sid r)) ns' t skip).map Prod.fst :=
  recipients_of_abs ((h.apply _).apply _) (h.apply _) (enter_idempotent h ns sid r) ns' t skip x

example : Inv demo := Inv.nil.run demoOps

/-- leaving undoes entering, however often the room was entered: there is no entry count -/
theorem enter_then_leave {s : St} (h : Inv s) (ns : Ns) (sid : Sid) (r : Room) :
    abs (apply (apply s (.enter ns sid r)) (.leave ns sid r)) = abs (apply s (.leave ns sid r)) := by
  rw [refines (h.apply _), refines h, refines h, Spec_enter_leave]

/-- a connected client that left a room and enters it again is a member exactly as if it had never left -/
theorem leave_then_enter {s : St} (h : Inv s) (ns : Ns) (sid : Sid) (r : Room)
    (hc : connected s ns sid) :
    abs (apply (apply s (.leave ns sid r)) (.enter ns sid r)) = abs (apply s (.enter ns sid r)) := by
  rw [refines (h.apply _), refines h, refines h, Spec_leave_enter]
  exact Option.isSome_iff_ne_none.2 hc

theorem close_idempotent {s : St} (h : Inv s) (ns : Ns) (r : Room) :
    abs (apply (apply s (.closeRoom ns r)) (.closeRoom ns r)) = abs (apply s (.closeRoom ns r)) := by
  rw [refines (h.apply _), refines h, Spec_close_idem]

theorem disconnect_idempotent {s : St} (h : Inv s) (ns : Ns) (sid : Sid) :
    abs (apply (apply s (.disconnect ns sid)) (.disconnect ns sid)) = abs (apply s (.disconnect ns sid)) := by
  rw [refines (h.apply _), refines h, Spec_disconnect_idem]

-- non-vacuity of `leave_then_enter`: `s1` is connected to `nsA` in the demo state
example : connected demo nsA s1 := by unfold connected; decide +kernel

end Sio.C03
