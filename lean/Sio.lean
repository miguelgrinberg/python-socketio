import Sio.Model.Json
import Sio.Model.Codec
import Sio.Model.Rooms
import Sio.Props.C01
import Sio.Model.Dispatch
import Sio.Props.C13
import Sio.Model.RoomsSpec
import Sio.Props.C03
import Sio.Model.Reconnect
import Sio.Lemmas.Reconnect
import Sio.Props.C10
import Sio.Model.Forward
import Sio.Props.C17
import Sio.Model.CodecSpec
import Sio.Lemmas.CodecDefs
import Sio.Lemmas.CodecBin
import Sio.Lemmas.CodecDigits
import Sio.Lemmas.CodecHdr
import Sio.Lemmas.CodecPacket
import Sio.Lemmas.CodecSpec
import Sio.Lemmas.CodecGuards
import Sio.Model.Simple
import Sio.Lemmas.Simple
import Sio.Props.C19
import Sio.Lemmas.CodecHdrConv
import Sio.Model.JsonParse
import Sio.Lemmas.JsonStr
import Sio.Lemmas.JsonNum
import Sio.Lemmas.JsonRoundtrip
import Sio.Model.Args
import Sio.Lemmas.ArgsDefs
import Sio.Lemmas.Args
import Sio.Props.C02
import Sio.Model.Sched
import Sio.Lemmas.SchedStep
import Sio.Lemmas.SchedPhase
import Sio.Lemmas.Sched
import Sio.Props.C04sched
import Sio.Props.C20
import Sio.Lemmas.ServerInv
import Sio.Lemmas.ServerReach
import Sio.Lemmas.ServerFrame
import Sio.Lemmas.ServerStep
import Sio.Model.Admin
import Sio.Lemmas.Admin
import Sio.Props.C18
import Sio.Lemmas.ServerHist
import Sio.Lemmas.ServerOut
import Sio.Lemmas.ServerAck
import Sio.Model.Client
import Sio.Model.ClientSpec
import Sio.Lemmas.Client
import Sio.Lemmas.ClientSim
import Sio.Lemmas.ClientSpec
import Sio.Lemmas.ClientStep
import Sio.Lemmas.ClientAck
import Sio.Props.C08
import Sio.Props.C09
import Sio.Lemmas.ServerEvent
import Sio.Lemmas.ServerView
import Sio.Lemmas.ServerBound
import Sio.Lemmas.ServerLost
import Sio.Model.PubSub
import Sio.Lemmas.PubSubListen
import Sio.Lemmas.PubSubEffect
import Sio.Lemmas.PubSubStep
import Sio.Lemmas.PubSubPlaced
import Sio.Lemmas.PubSubSyncOps
import Sio.Props.C07
import Sio.Props.C15
import Sio.Lemmas.ServerConn
import Sio.Lemmas.ServerOnce
import Sio.Lemmas.ServerSess
import Sio.Lemmas.PubSubRunOps
import Sio.Lemmas.PubSubTokOps
import Sio.Lemmas.PubSubDeliver
import Sio.Lemmas.ServerNI
import Sio.Lemmas.ServerNILoc
import Sio.Lemmas.ServerNIMain
import Sio.Props.GlueCodec
import Sio.Props.GlueServer
import Sio.Props.GlueReconnect
import Sio.Props.GlueDispatch
import Sio.Lemmas.PubSubLinked
import Sio.Lemmas.PubSubLinkedInv
import Sio.Lemmas.PubSubLinkedOps
import Sio.Lemmas.PubSubLinkedCb
import Sio.Lemmas.PubSubLinkedEmit
import Sio.Lemmas.PubSubLinkedHist
import Sio.Lemmas.AdminTransparent
import Sio.Lemmas.SimpleAsync
import Sio.Lemmas.RoomsAlgebra
